import RjModel.Lemmas.PlannerInv
/-! The two action lists of the planner *as lists* (iteration order included), for every arrival order. -/
namespace Rj

theorem OMap.Tracks.iter {V : Type} {m : OMap V} {L : List String} (h : m.Tracks L) (hn : L.Nodup) :
    m.iter = L.filterMap (fun k => (m.get k).map (fun v => (k, v))) := by
  -- liveness is needed of the keys of `L` only, and in that form it passes to the tail of `L` in the induction
  obtain ⟨hs, hk⟩ : m.vec.Sublist L ∧ ∀ k ∈ L, m.get k ≠ none → k ∈ m.vec := ⟨h.sub, fun k _ => h.live k⟩
  clear h
  unfold OMap.iter
  generalize m.vec = vec at hs hk
  induction hs with
  | slnil => rfl
  | @cons v' L' a hs' ih =>
    -- `a` was not pushed, so it is not live
    obtain ⟨ha, hn'⟩ := List.nodup_cons.mp hn
    have : m.get a = none := Classical.byContradiction fun hg => ha (hs'.subset (hk a List.mem_cons_self hg))
    rw [List.filterMap_cons, this]
    exact ih hn' fun k hL => hk k (List.mem_cons_of_mem _ hL)
  | @cons_cons v' L' a hs' ih =>
    obtain ⟨ha, hn'⟩ := List.nodup_cons.mp hn
    rw [List.filterMap_cons, List.filterMap_cons, ih hn' fun k hL hg => ?_]
    exact (List.mem_cons.mp (hk k (List.mem_cons_of_mem _ hL) hg)).resolve_left fun e => ha (e ▸ hL)

/-- **The two action lists, as lists**: after any arrival sequence with unique paths per side, iterating `to_delete`
in reversed order gives exactly the destination listing reversed and filtered by the closed form (with the closed form's
value), and iterating `to_copy` gives the source listing filtered by the closed form - whatever the interleaving. -/
theorem plan_lists (c : PCfg) (evs : List Ev)
    (hs : ((srcOf evs).map (·.1)).Nodup) (hd : ((dstOf evs).map (·.1)).Nodup) :
    ∃ s, prun c PState.init evs = some s ∧
      s.del.reverseOrder.iter = (((dstOf evs).map (·.1)).reverse).filterMap (fun k =>
          (delSpec c (lookup (srcOf evs).reverse) (lookup (dstOf evs).reverse) k).map (fun v => (k, v))) ∧
      s.cpy.iter = ((srcOf evs).map (·.1)).filterMap (fun k =>
          (cpySpec c (lookup (srcOf evs).reverse) (lookup (dstOf evs).reverse) k).map (fun v => (k, v))) := by
  obtain ⟨s, h, hp⟩ := prun_init c evs hs hd
  refine ⟨s, h, ?_, ?_⟩
  · rw [OMap.iter_reverseOrder, hp.del.iter hd, List.filterMap_reverse]
    simp only [hp.inv.1, hp.src, hp.dst]
  · rw [hp.cpy.iter hs]
    simp only [hp.inv.2, hp.src, hp.dst]

end Rj
