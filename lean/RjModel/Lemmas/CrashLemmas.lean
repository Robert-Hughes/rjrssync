import RjModel.Lemmas.SyncLemmas
/-! Crash points.  The destination half of a sync is a sequence of calls; a crash (or a lost link) leaves the destination
in the state reached after some prefix of that sequence.  These lemmas describe every such state and show that it is
again a tree (root and its ancestors folders, every entry's parent a folder), so that the mirror theorem applies to it:
running the sync again repairs it (`Props/C08.lean`). -/
namespace Rj

/-- **Every state of the delete phase is a tree**: after any prefix `done` of the planned deletions the destination
below the root is still closed (every entry's parent is a folder) and the root is a folder. -/
theorem dels_prefix_closed {vis : FPath → Bool} {fs0 : FS} {r : FPath} {ld : List (FPath × Node)}
    {src : FPath → Option SEntry} {ls : List (FPath × SEntry)} (hw : DestWF vis fs0 r ld) (hs : SrcWF vis src ls)
    (hsafe : ∀ p c n, (p, Node.folder) ∈ planDel src ld → fs0.get (r ++ (p ++ [c])) = some n → vis (p ++ [c]) = true)
    (done rest : List (FPath × Node)) (hsplit : planDel src ld = done ++ rest) (fs : FS)
    (hin : ∀ p, fs.get (r ++ p) = if p ∈ done.map (·.1) then none else fs0.get (r ++ p)) :
    fs.get r = some .folder ∧
    ∀ p, p ≠ [] → fs.get (r ++ p) ≠ none → fs.get (r ++ p.dropLast) = some .folder := by
  refine ⟨?_, fun p hpne hp => ?_⟩
  · have : ([] : FPath) ∉ done.map (·.1) := fun h => (planDel_keys_vis hw (mem_keys_of_split hsplit h)).1 rfl
    simpa [this, hw.rootFolder] using hin []
  rw [hin p] at hp
  split at hp
  · exact absurd rfl hp
  next hpnot =>
  -- the parent is still there: had it been removed, its child `p` would have been removed before it
  rw [hin, if_neg, hw.closed p hpne hp]
  intro hmem
  obtain ⟨n, hn⟩ := Option.ne_none_iff_exists'.mp hp
  have hshape := List.dropLast_concat_getLast hpne
  rw [← hshape] at hn
  exact hpnot (hshape ▸ child_of_deleted_is_deleted hw hs hsplit hmem hn fun h => hsafe _ _ _ h hn)

/-- **Every state of the copy phase is a tree**: after all planned deletions and any prefix `done` of the planned
creations the destination below the root is closed and the root is a folder. -/
theorem cpys_prefix_closed {vis : FPath → Bool} {fs0 : FS} {r : FPath} {ld : List (FPath × Node)}
    {src : FPath → Option SEntry} {ls : List (FPath × SEntry)} (hw : DestWF vis fs0 r ld) (hs : SrcWF vis src ls)
    (hsafe : ∀ p c n, (p, Node.folder) ∈ planDel src ld → fs0.get (r ++ (p ++ [c])) = some n → vis (p ++ [c]) = true)
    (done rest : List (FPath × SEntry)) (hsplit : planCpy (fun p => fs0.get (r ++ p)) ls = done ++ rest) (fs : FS)
    (hin : ∀ q, fs.get (r ++ q) = if q ∈ done.map (·.1) then (src q).map written else afterDels fs0 r src ld q) :
    fs.get r = some .folder ∧
    ∀ p, p ≠ [] → fs.get (r ++ p) ≠ none → fs.get (r ++ p.dropLast) = some .folder := by
  have hroot : fs.get r = some .folder := by
    have : ([] : FPath) ∉ done.map (·.1) := fun h => (planCpy_keys_vis hs (mem_keys_of_split hsplit h)).1 rfl
    simpa [this, afterDels_hidden hw fun h => h.1 rfl, hw.rootFolder] using hin []
  refine ⟨hroot, fun p hpne hp => ?_⟩
  by_cases hq : p.dropLast = []
  · rw [hq, List.append_nil]; exact hroot
  by_cases hpd : p ∈ done.map (·.1)
  · -- `p` was created: its parent is a source folder, and not pending, since parents come first
    obtain ⟨e, ⟨-, hv, hse⟩, -⟩ := (mem_planCpy_keys hs).mp (mem_keys_of_split hsplit hpd)
    exact cpy_folder_ready hw hs hsplit hin hq (List.dropLast_eq_take ▸ hs.visPrefix _ _ hv)
      (hs.closed _ hpne (by simp [hse]) hq) fun hm => planCpy_order hs hsplit p hpd _ hm (List.dropLast_prefix p)
  · -- `p` is what the delete phase left: so is its parent, which therefore no creation names
    rw [hin, if_neg hpd, afterDels] at hp
    split at hp
    · exact absurd rfl hp
    next hpdel =>
    obtain ⟨n, hn⟩ := Option.ne_none_iff_exists'.mp hp
    have hshape := List.dropLast_concat_getLast hpne
    have had : afterDels fs0 r src ld p.dropLast = some .folder := by
      rw [afterDels, if_neg, hw.closed p hpne hp]
      intro hmem
      rw [← hshape] at hn
      exact hpdel (hshape ▸ child_of_deleted_is_deleted hw hs (List.append_nil _).symm hmem hn fun h => hsafe _ _ _ h hn)
    rw [hin, if_neg, had]
    -- a planned creation finds nothing or a file at its path, never a folder
    intro hm
    obtain ⟨a, ha, e1⟩ := List.mem_map.mp hm
    obtain ⟨_, _, _, _, _, h⟩ := afterDels_at_planned hw hs (hsplit ▸ List.mem_append_left _ ha) _ (e1 ▸ had)
    cases h

end Rj
