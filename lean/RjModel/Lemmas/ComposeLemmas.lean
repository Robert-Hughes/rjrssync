import RjModel.Lemmas.DoerLemmas
import RjModel.Lemmas.SyncLemmas
import RjModel.Model.Boss
/-! Composition: the doer model (`exec_command` over the file-system model) executing the command trace the boss
sends for a plan is `runOps` of that plan - for files cut into parts in any way. -/
namespace Rj

variable {k : ChunkCfg} {keepOf : List FilterSpec → String → Bool}

/-- the string the boss uses for a relative path -/
def pathStr (p : FPath) : String := String.ofList (joinSlash p)

def GoodPath (p : FPath) : Prop := ∀ c ∈ p, c ≠ [] ∧ '/' ∉ c ∧ c ≠ ['.'] ∧ c ≠ ['.', '.']

theorem relComps_pathStr (p : FPath) (h : GoodPath p) : relComps (pathStr p) = some p := by
  unfold relComps pathStr
  cases p with
  | nil => simp [joinSlash]
  | cons c rest =>
    have hne : joinSlash (c :: rest) ≠ [] := by
      cases rest with
      | nil => simpa [joinSlash] using (h c (by simp)).1
      | cons d r => simp [joinSlash]
    have hall : (c :: rest).all (fun c => decide (c ≠ [] ∧ c ≠ ['.'] ∧ c ≠ ['.', '.'])) = true :=
      List.all_eq_true.mpr fun x hx => by simp [(h x hx).1, (h x hx).2.2]
    simp only [String.toList_ofList, hne, ↓reduceIte, splitSlash_joinSlash _ (by simp) fun x hx => (h x hx).2.1, hall]

/-- the commands that carry one file: every part but the last with `more_to_follow`, the time stamp with the last -/
def fileCmds (ps : String) (init : List (List UInt8)) (last : List UInt8) (m : Int) : List Cmd :=
  init.map (fun c => Cmd.createOrUpdateFile ps c none true) ++ [.createOrUpdateFile ps last (some m) false]

/-- the parts of a file, from a state in which the file holds `acc` and has only been written since it was created: it is
created by the part now executed, or open since an earlier part; the last part sets the time -/
theorem exec_parts (abs : List Comp) (r p : FPath) (ps : String) (hp : relComps ps = some p) (hfull : r ++ p ≠ []) (base : FS)
    (last : List UInt8) (m : Int) (fs' : FS) :
    ∀ (cs : List (List UInt8)) (acc : List UInt8) (fs : FS) (ip : Option String),
      (ip = none ∧ fs.createTrunc (r ++ p) = .ok (base.set (r ++ p) (some (.file acc .fresh))) ∨
        ip = some ps ∧ fs = base.set (r ++ p) (some (.file acc .fresh))) →
      (base.set (r ++ p) (some (.file (acc ++ cs.flatten ++ last) .fresh))).setMtime (r ++ p) m = .ok fs' →
      execCmds k keepOf ⟨fs, abs, some (r, false), ip, none⟩ (fileCmds ps cs last m)
        = (⟨fs', abs, some (r, false), none, none⟩, List.replicate (cs.length + 1) [], none) := by
  intro cs
  induction cs with
  | nil =>
    intro acc fs ip ho h
    simp only [List.flatten_nil, List.append_nil] at h
    simp only [fileCmds, List.map_nil, List.nil_append, execCmds]
    rw [execCmd_at k keepOf rfl hp rfl]
    rcases ho with ⟨hi, hc⟩ | ⟨hi, hc⟩ <;>
      simp [pathOp, execCreateOrUpdate, hi, hc, append_set hfull, h, reply]
  | cons c cs ih =>
    intro acc fs ip ho h
    have := ih (acc ++ c) _ _ (.inr ⟨rfl, rfl⟩) (by simpa [List.append_assoc] using h)
    simp only [fileCmds, List.map_cons, List.cons_append, execCmds] at this ⊢
    rw [execCmd_at k keepOf rfl hp rfl]
    rcases ho with ⟨hi, hc⟩ | ⟨hi, hc⟩ <;>
      simp [pathOp, execCreateOrUpdate, hi, hc, append_set hfull, this, List.replicate_succ]

/-- **A file sent in any number of parts is `putFile`**: whatever the chunking, the doer model ends with the
file system `File::create` + one `write_all` of the whole content + `set_file_mtime` gives, nothing in
progress, no error response. -/
theorem exec_fileCmds (k : ChunkCfg) (keepOf : List FilterSpec → String → Bool) (fs : FS) (abs : List Comp) (r p : FPath) (ps : String)
    (hp : relComps ps = some p) (init : List (List UInt8)) (last : List UInt8) (m : Int) (fs' : FS)
    (h : putFile fs (r ++ p) (init.flatten ++ last) m = .ok fs') :
    execCmds k keepOf ⟨fs, abs, some (r, false), none, none⟩ (fileCmds ps init last m)
      = (⟨fs', abs, some (r, false), none, none⟩, List.replicate (init.length + 1) [], none) := by
  obtain ⟨fs1, hc, h⟩ := OpR.bind_eq_ok.mp h
  obtain ⟨hfull, rfl⟩ := createTrunc_ok_eq hc
  obtain ⟨fs2, ha, h⟩ := OpR.bind_eq_ok.mp h
  rw [append_set hfull] at ha
  cases ha
  exact exec_parts abs r p ps hp hfull fs last m fs' init [] fs none (.inl ⟨rfl, hc⟩) (by simpa using h)

def idle (fs : FS) (abs : List Comp) (r : FPath) : DoerSt := ⟨fs, abs, some (r, false), none, none⟩

/-- the boss's delete command for a destination entry (`kd`: the link kind it was listed with) -/
def delCmdOf (kd : FPath → SymKind) (x : FPath × Node) : Cmd :=
  match x.2 with
  | .folder => .deleteFolder (pathStr x.1)
  | .symlink _ => .deleteSymlink (pathStr x.1) (kd x.1)
  | _ => .deleteFile (pathStr x.1)

/-- the boss's creation commands for a source entry; `parts` says how a file's bytes are cut into parts -/
def cpyCmdsOf (ks : FPath → SymKind) (parts : FPath → List (List UInt8) × List UInt8) (x : FPath × SEntry) : List Cmd :=
  match x.2 with
  | .folder => [.createFolder (pathStr x.1)]
  | .link t => [.createSymlink (pathStr x.1) (ks x.1) t]
  | .file _ m => fileCmds (pathStr x.1) (parts x.1).1 (parts x.1).2 m

theorem execCmds_append {a b : List Cmd} {st st1 : DoerSt} {o1 : List (List Resp)}
    (h : execCmds k keepOf st a = (st1, o1, none)) :
    execCmds k keepOf st (a ++ b) =
      ((execCmds k keepOf st1 b).1, o1 ++ (execCmds k keepOf st1 b).2.1, (execCmds k keepOf st1 b).2.2) := by
  induction a generalizing st o1 with
  | nil => cases h; rfl
  | cons c rest ih =>
    simp only [List.cons_append, execCmds] at h ⊢
    cases hx : execCmd k keepOf st c with
    | ok st' out =>
      simp only [hx, Prod.mk.injEq] at h ⊢
      obtain ⟨h1, h2, h3⟩ := h
      rw [ih (by rw [← h1, ← h3]), ← h2]
      simp
    | _ => simp [hx] at h

theorem exec_delCmd {kd : FPath → SymKind} {abs : List Comp} {r : FPath} {fs fs' : FS} {x : FPath × Node}
    (hg : GoodPath x.1) (h : delOp fs r x = .ok fs') :
    execCmds k keepOf (idle fs abs r) [delCmdOf kd x] = (idle fs' abs r, [[]], none) := by
  have b := fun c hc => execCmd_at k keepOf (st := idle fs abs r) (c := c) rfl (relComps_pathStr x.1 hg) hc
  obtain ⟨p, n⟩ := x
  cases n <;> simp only [delOp] at h <;> simp only [delCmdOf, execCmds] <;> rw [b _ rfl] <;> simp only [pathOp, idle, h, reply]

theorem exec_cpyCmds {ks : FPath → SymKind} {parts : FPath → List (List UInt8) × List UInt8} {abs : List Comp} {r : FPath}
    {fs fs' : FS} {x : FPath × SEntry} (hg : GoodPath x.1)
    (hparts : ∀ b m, x.2 = .file b m → (parts x.1).1.flatten ++ (parts x.1).2 = b) (h : cpyOp fs r x = .ok fs') :
    execCmds k keepOf (idle fs abs r) (cpyCmdsOf ks parts x)
      = (idle fs' abs r, List.replicate (cpyCmdsOf ks parts x).length [], none) := by
  have hrel := relComps_pathStr x.1 hg
  have b := fun c hc => execCmd_at k keepOf (st := idle fs abs r) (c := c) rfl hrel hc
  obtain ⟨p, e⟩ := x
  cases e with
  | folder | link t => simp only [cpyOp] at h; simp only [cpyCmdsOf, execCmds]; rw [b _ rfl]; simp only [pathOp, idle, h, reply]; rfl
  | file bb m =>
    simp only [cpyOp] at h
    rw [← hparts bb m rfl] at h
    simp only [cpyCmdsOf, idle]
    rw [exec_fileCmds k keepOf fs abs r p (pathStr p) hrel (parts p).1 (parts p).2 m fs' h]
    simp [fileCmds]

theorem execCmds_runOps (abs : List Comp) (r : FPath) {α : Type} (op : FS → α → OpR FS) (cmds : α → List Cmd) :
    ∀ (l : List α) (fs fs1 : FS),
      (∀ x ∈ l, ∀ fs fs', op fs x = .ok fs' →
        execCmds k keepOf (idle fs abs r) (cmds x) = (idle fs' abs r, List.replicate (cmds x).length [], none)) →
      runOps op fs l = .ok fs1 →
      execCmds k keepOf (idle fs abs r) (l.flatMap cmds) = (idle fs1 abs r, List.replicate (l.flatMap cmds).length [], none) := by
  intro l
  induction l with
  | nil => intro fs fs1 _ h; cases h; rfl
  | cons x rest ih =>
    intro fs fs1 hone h
    obtain ⟨fs', hd, h⟩ := OpR.bind_eq_ok.mp h
    rw [List.flatMap_cons, execCmds_append (hone x (by simp) fs fs' hd),
      ih fs' fs1 (fun y hy => hone y (by simp [hy])) h]
    simp [List.replicate_append_replicate]

/-- **The doer model executing the boss's destination trace of a sync is `runOps` of the plan**: one delete
command per planned deletion, the marker that separates the phases, then the creation commands of the planned
copies - files cut into parts in any way - run by `exec_command` from an idle doer whose root is set leave
exactly the file system the two phases of `syncDest` leave, with no error response, nothing in progress
and nothing outside the model (`escape`, `panic`, bad path) reached. -/
theorem exec_trace (k : ChunkCfg) (keepOf : List FilterSpec → String → Bool) (kd ks : FPath → SymKind)
    (parts : FPath → List (List UInt8) × List UInt8) (abs : List Comp) (r : FPath) (ph : Phase)
    (dels : List (FPath × Node)) (cpys : List (FPath × SEntry)) (fs fs1 fs2 : FS)
    (hgd : ∀ x ∈ dels, GoodPath x.1) (hgc : ∀ x ∈ cpys, GoodPath x.1)
    (hparts : ∀ x ∈ cpys, ∀ b m, x.2 = .file b m → (parts x.1).1.flatten ++ (parts x.1).2 = b)
    (h1 : runOps (fun f x => delOp f r x) fs dels = .ok fs1)
    (h2 : runOps (fun f x => cpyOp f r x) fs1 cpys = .ok fs2) :
    execCmds k keepOf (idle fs abs r) (dels.map (delCmdOf kd) ++ (.marker ph :: cpys.flatMap (cpyCmdsOf ks parts)))
      = (idle fs2 abs r,
         List.replicate dels.length [] ++ ([.marker] :: List.replicate (cpys.flatMap (cpyCmdsOf ks parts)).length []), none) := by
  have hd := execCmds_runOps (k := k) (keepOf := keepOf) abs r _ (fun x => [delCmdOf kd x]) dels fs fs1
    (fun x hx _ _ h => exec_delCmd (hgd x hx) h) h1
  rw [← List.map_eq_flatMap, List.length_map] at hd
  rw [execCmds_append hd]
  simp only [execCmds, execCmd]
  rw [execCmds_runOps abs r _ _ cpys fs1 fs2 (fun x hx _ _ h => exec_cpyCmds (hgc x hx) (hparts x hx) h) h2]

/-- `exec_trace` for the plan of `syncDest` -/
theorem exec_trace_syncDest (k : ChunkCfg) (keepOf : List FilterSpec → String → Bool) (kd ks : FPath → SymKind)
    (parts : FPath → List (List UInt8) × List UInt8) (abs : List Comp) (r : FPath) (ph : Phase)
    (src : FPath → Option SEntry) (ls : List (FPath × SEntry)) (ld : List (FPath × Node)) (fs fs2 : FS)
    (hgd : ∀ x ∈ ld, GoodPath x.1) (hgc : ∀ x ∈ ls, GoodPath x.1)
    (hparts : ∀ x ∈ ls, ∀ b m, x.2 = .file b m → (parts x.1).1.flatten ++ (parts x.1).2 = b)
    (h : syncDest fs r src ls ld = .ok fs2) :
    execCmds k keepOf (idle fs abs r)
        ((planDel src ld).map (delCmdOf kd) ++ (.marker ph :: (planCpy (fun p => fs.get (r ++ p)) ls).flatMap (cpyCmdsOf ks parts)))
      = (idle fs2 abs r,
         List.replicate (planDel src ld).length [] ++
           ([.marker] :: List.replicate ((planCpy (fun p => fs.get (r ++ p)) ls).flatMap (cpyCmdsOf ks parts)).length []), none) := by
  obtain ⟨fs1, h1, h⟩ := OpR.bind_eq_ok.mp h
  exact exec_trace k keepOf kd ks parts abs r ph _ _ fs fs1 fs2
    (fun x hx => hgd x (mem_planDel.mp hx).1) (fun x hx => hgc x (mem_planCpy.mp hx).1)
    (fun x hx => hparts x (mem_planCpy.mp hx).1) h1 h

theorem deleteCmd_eq (k : SymKind) (p : FPath) (n : Node) (hn : n ≠ .special) :
    deleteCmd (pathStr p) (match n with
        | .file b (.at m) => Details.file m b.length
        | .file b .fresh => .file (-1) b.length
        | .folder => .folder
        | .symlink text => .symlink k (readLinkB text)
        | .special => .folder) = delCmdOf (fun _ => k) (p, n) := by
  cases n with
  | file b mt => cases mt <;> rfl
  | folder => rfl
  | symlink t => rfl
  | special => exact absurd rfl hn

theorem chunkCmds_eq (ps : String) (init : List (List UInt8)) (last : List UInt8) (m : Int) :
    (init.map (fun c => (c, true)) ++ [(last, false)]).map (fun ch => chunkCmd ps ch.1 m ch.2) = fileCmds ps init last m := by
  simp [fileCmds, chunkCmd, List.map_map, Function.comp_def]

end Rj
