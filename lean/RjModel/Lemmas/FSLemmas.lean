import RjModel.Model.Sync
/-! Lemmas about the file-system model: `get`/`set` and the representation invariant `FS.Wf`; for every operation what a
successful call is (`*_ok_eq`: one `set` at the path it names, hence `Upd`, which gives the frame and `Wf`); how a sequence of
calls is stepped through (`runOps_steps`: a lemma about one step lifts to any stretch of a plan). -/
namespace Rj
open FS

theorem lookup_filter_ne {β : Type} {l : List (FPath × β)} {p q : FPath} (h : q ≠ p) :
    (l.filter (fun e => !(e.1 == p))).lookup q = l.lookup q := by
  induction l with
  | nil => rfl
  | cons e rest ih =>
    obtain ⟨k, v⟩ := e
    by_cases hk : k = p
    · have : (q == p) = false := by simpa using h
      simp [hk, List.lookup_cons, this, ih]
    · simp [hk, List.lookup_cons, ih]

/-- `hp`: `get` answers for the world root without looking; no operation `set`s it -/
theorem FS.get_set {fs : FS} {p q : FPath} {v : Option Node} (hp : p ≠ []) :
    (fs.set p v).get q = if q = p then v else fs.get q := by
  unfold FS.get FS.set
  by_cases hqp : q = p
  · subst hqp
    have : (fs.nodes.filter fun e => !(e.1 == q)).lookup q = none := by
      simp only [List.lookup_eq_none_iff, List.mem_filter]; rintro ⟨a, b⟩ ⟨-, h⟩
      simp only [Bool.not_eq_eq_eq_not, Bool.not_true, beq_eq_false_iff_ne, ne_eq] at h
      simpa using fun e => h e.symm
    cases v <;> simp [hp, this]
  · have hb : (q == p) = false := by simpa using hqp
    cases v <;> simp [hqp, List.lookup_cons, hb, lookup_filter_ne hqp]

theorem FS.get_nil (fs : FS) : fs.get [] = some .folder := by simp [FS.get]

theorem FS.set_set (fs : FS) (p : FPath) (x y : Option Node) : (fs.set p x).set p y = fs.set p y := by
  unfold FS.set
  rw [List.filter_append, List.filter_filter]
  cases x <;> simp

theorem FS.mem_of_get {fs : FS} {p : FPath} {n : Node} (hp : p ≠ []) (h : fs.get p = some n) : (p, n) ∈ fs.nodes := by
  simp only [FS.get, hp, ↓reduceIte] at h
  obtain ⟨l₁, l₂, e, -⟩ := List.lookup_eq_some_iff.mp h
  simp [e]

theorem FS.get_isSome_of_mem {fs : FS} {p : FPath} {n : Node} (hp : p ≠ []) (h : (p, n) ∈ fs.nodes) : (fs.get p).isSome := by
  simp only [FS.get, hp, ↓reduceIte]
  exact List.lookup_isSome_iff.mpr ⟨_, h, by simp⟩

/-- the representation invariant of a file system value: one entry per path -/
def FS.Wf (fs : FS) : Prop := (fs.nodes.map (·.1)).Nodup

theorem FS.Wf.get_of_mem {fs : FS} (hw : fs.Wf) {p : FPath} {n : Node} (hp : p ≠ []) (h : (p, n) ∈ fs.nodes) :
    fs.get p = some n := by
  simp only [FS.get, hp, ↓reduceIte]
  obtain ⟨l₁, l₂, e⟩ := List.append_of_mem h
  rw [FS.Wf, e, List.map_append, List.nodup_append] at hw
  exact List.lookup_eq_some_iff.mpr ⟨l₁, l₂, e, fun x hx => bne_iff_ne.mpr fun hpx =>
    hw.2.2 x.1 (List.mem_map_of_mem hx) p (by simp) hpx.symm⟩

theorem FS.Wf.set {fs : FS} (hw : fs.Wf) (p : FPath) (v : Option Node) : (fs.set p v).Wf := by
  unfold FS.Wf FS.set at *
  have hfil : ((fs.nodes.filter fun e => !(e.1 == p)).map (·.1)).Nodup := hw.sublist (List.filter_sublist.map _)
  cases v with
  | none => simpa using hfil
  | some x => simpa [List.mem_filter] using hfil

variable {fs fs' : FS} {p : FPath}

theorem withAnc_ok {k : OpR FS} (h : withAnc fs p k = .ok fs') :
    fs.ancestors p = .ok ∧ k = .ok fs' := by
  unfold withAnc at h
  split at h <;> simp_all

theorem ne_nil_of_get {v : Option Node} (h : fs.get p = v) (hv : v ≠ some .folder) : p ≠ [] :=
  fun e => hv (h ▸ e ▸ fs.get_nil)

theorem createTrunc_ok_eq (h : fs.createTrunc p = .ok fs') :
    p ≠ [] ∧ fs' = fs.set p (some (.file [] .fresh)) := by
  obtain ⟨-, h⟩ := withAnc_ok h
  split at h <;> cases h <;> exact ⟨ne_nil_of_get ‹fs.get p = _› (by simp), rfl⟩

theorem append_ok_eq {d : List UInt8} (h : fs.append p d = .ok fs') :
    p ≠ [] ∧ ∃ b m, fs.get p = some (.file b m) ∧ fs' = fs.set p (some (.file (b ++ d) (if d = [] then m else .fresh))) := by
  unfold FS.append at h
  split at h <;> cases h
  exact ⟨ne_nil_of_get ‹fs.get p = _› (by simp), _, _, ‹fs.get p = _›, rfl⟩

/-- a write through the handle of a file that has only been written since it was created -/
theorem append_set {base : FS} {full : FPath} (hfull : full ≠ []) (acc c : List UInt8) :
    (base.set full (some (.file acc .fresh))).append full c = .ok (base.set full (some (.file (acc ++ c) .fresh))) := by
  unfold FS.append
  rw [FS.get_set hfull]
  simp [FS.set_set]

theorem setMtime_ok_eq {t : Int} (h : fs.setMtime p t = .ok fs') :
    fs' = fs ∨ (p ≠ [] ∧ ∃ b m, fs.get p = some (.file b m) ∧ fs' = fs.set p (some (.file b (.at t)))) := by
  obtain ⟨-, h⟩ := withAnc_ok h
  split at h <;> cases h
  · exact .inr ⟨ne_nil_of_get ‹fs.get p = _› (by simp), _, _, ‹fs.get p = _›, rfl⟩
  · exact .inl rfl
  · exact .inl rfl

theorem mkdir_ok_eq (h : fs.mkdir p = .ok fs') : p ≠ [] ∧ fs' = fs.set p (some .folder) := by
  obtain ⟨-, h⟩ := withAnc_ok h
  split at h <;> cases h
  exact ⟨ne_nil_of_get ‹fs.get p = _› (by simp), rfl⟩

theorem mksymlink_ok_eq {t : List UInt8} (h : fs.mksymlink p t = .ok fs') :
    p ≠ [] ∧ fs' = fs.set p (some (.symlink t)) := by
  unfold FS.mksymlink at h
  split at h
  · cases h
  · obtain ⟨-, h⟩ := withAnc_ok h
    split at h <;> cases h
    exact ⟨ne_nil_of_get ‹fs.get p = _› (by simp), rfl⟩

theorem unlink_ok_eq (h : fs.unlink p = .ok fs') : p ≠ [] ∧ fs' = fs.set p none := by
  obtain ⟨-, h⟩ := withAnc_ok h
  split at h
  · cases h
  · split at h <;> cases h
    exact ⟨‹p ≠ []›, rfl⟩
  · cases h

theorem rmdir_ok_eq (h : fs.rmdir p = .ok fs') :
    p ≠ [] ∧ fs.hasChild p = false ∧ fs' = fs.set p none := by
  obtain ⟨-, h⟩ := withAnc_ok h
  split at h
  · split at h <;> cases h
    rename_i hn; simp only [not_or, Bool.not_eq_true] at hn
    exact ⟨hn.1, hn.2, rfl⟩
  · cases h

def Upd (fs fs' : FS) (p : FPath) : Prop := fs' = fs ∨ (p ≠ [] ∧ ∃ v, fs' = fs.set p v)

theorem Upd.of_eq {v : Option Node} (h : p ≠ [] ∧ fs' = fs.set p v) : Upd fs fs' p :=
  .inr ⟨h.1, v, h.2⟩

theorem Upd.frame (h : Upd fs fs' p) (q : FPath) (hq : q ≠ p) : fs'.get q = fs.get q := by
  rcases h with rfl | ⟨hp, v, rfl⟩
  · rfl
  · rw [FS.get_set hp, if_neg hq]

theorem Upd.wf (h : Upd fs fs' p) (hw : fs.Wf) : fs'.Wf := by
  rcases h with rfl | ⟨-, v, rfl⟩
  · exact hw
  · exact hw.set p v

theorem Upd.trans {fs1 fs2 : FS} (h1 : Upd fs fs1 p) (h2 : Upd fs1 fs2 p) : Upd fs fs2 p := by
  rcases h1 with rfl | ⟨hp, v, rfl⟩
  · exact h2
  · rcases h2 with rfl | ⟨-, w, rfl⟩
    · exact .inr ⟨hp, v, rfl⟩
    · exact .inr ⟨hp, w, FS.set_set ..⟩

theorem append_upd {d : List UInt8} (h : fs.append p d = .ok fs') : Upd fs fs' p :=
  let ⟨hp, _, _, _, e⟩ := append_ok_eq h; .of_eq ⟨hp, e⟩

theorem setMtime_upd {t : Int} (h : fs.setMtime p t = .ok fs') : Upd fs fs' p := by
  rcases setMtime_ok_eq h with e | ⟨hp, _, _, -, e⟩
  · exact .inl e
  · exact .of_eq ⟨hp, e⟩

/-- `create_dir_all` only turns missing prefixes of the path into folders -/
theorem mkdirAll_frame (fs fs' : FS) (pre rest : List Comp) (h : mkdirAll fs pre rest = .ok fs') :
    ∀ q, fs'.get q = fs.get q ∨ (fs.get q = none ∧ fs'.get q = some .folder ∧ q <+: pre ++ rest) := by
  induction rest generalizing fs pre with
  | nil => cases h; exact fun q => .inl rfl
  | cons c rest ih =>
    intro q
    rw [List.append_cons]
    simp only [mkdirAll] at h
    split at h
    · exact ih _ _ h q
    · next hnone =>
      have := ih _ _ h q
      rw [FS.get_set (by simp)] at this
      by_cases hq : q = pre ++ [c]
      · subst hq
        exact .inr ⟨hnone, by simpa using this, List.prefix_append _ _⟩
      · simpa [hq] using this
    · cases h
    · cases h

theorem OpR.bind_eq_ok {α β : Type} {x : OpR α} {f : α → OpR β} {b : β} :
    x.bind f = .ok b ↔ ∃ a, x = .ok a ∧ f a = .ok b := by
  cases x <;> simp [OpR.bind]

theorem putFile_upd {b : List UInt8} {m : Int} (h : putFile fs p b m = .ok fs') : Upd fs fs' p := by
  obtain ⟨fs1, h1, h⟩ := OpR.bind_eq_ok.mp h
  obtain ⟨fs2, h2, h3⟩ := OpR.bind_eq_ok.mp h
  exact (Upd.of_eq (createTrunc_ok_eq h1)).trans ((append_upd h2).trans (setMtime_upd h3))

theorem delOp_ok_eq {r : FPath} {x : FPath × Node} (h : delOp fs r x = .ok fs') :
    r ++ x.1 ≠ [] ∧ fs' = fs.set (r ++ x.1) none := by
  unfold delOp at h
  split at h
  · exact ⟨(rmdir_ok_eq h).1, (rmdir_ok_eq h).2.2⟩
  · exact unlink_ok_eq h

theorem cpyOp_upd {r : FPath} {x : FPath × SEntry} (h : cpyOp fs r x = .ok fs') : Upd fs fs' (r ++ x.1) := by
  unfold cpyOp at h
  split at h
  · exact .of_eq (mkdir_ok_eq h)
  · exact .of_eq (mksymlink_ok_eq h)
  · exact putFile_upd h

theorem runOps_preserves {α : Type} {op : FS → α → OpR FS} {P : FS → Prop}
    (hop : ∀ {fs x fs'}, P fs → op fs x = .ok fs' → P fs') {todo : List α} (h0 : P fs)
    (h : runOps op fs todo = .ok fs') : P fs' := by
  induction todo generalizing fs with
  | nil => cases h; exact h0
  | cons x xs ih =>
    obtain ⟨fs1, h1, h⟩ := OpR.bind_eq_ok.mp h
    exact ih (hop h0 h1) h

/-- One induction for every phase of a sync: `I done fs` describes the state after the operations `done` of the `plan`;
each step succeeds and re-establishes it, unless `F x`, and then it fails with an *error* (it never escapes). -/
theorem runOps_steps {α : Type} {op : FS → α → OpR FS} {I : List α → FS → Prop} {F : α → Prop} {plan : List α}
    (step : ∀ done x rest fs, plan = done ++ x :: rest → I done fs →
      (¬ F x ∧ ∃ fs', op fs x = .ok fs' ∧ I (done ++ [x]) fs') ∨ (F x ∧ op fs x = .err))
    (todo rest : List α) : ∀ (done : List α) (fs : FS), plan = done ++ todo ++ rest → I done fs →
      ((∀ x ∈ todo, ¬ F x) ∧ ∃ fs', runOps op fs todo = .ok fs' ∧ I (done ++ todo) fs') ∨
      ((∃ x ∈ todo, F x) ∧ runOps op fs todo = .err) := by
  induction todo with
  | nil => intro done fs _ h; exact .inl ⟨by simp, fs, rfl, by rwa [List.append_nil]⟩
  | cons x todo ih =>
    intro done fs hsplit h
    rcases step done x (todo ++ rest) fs (by simpa using hsplit) h with ⟨hF, fs1, hop, h1⟩ | ⟨hF, hop⟩
    · simp only [runOps, hop, OpR.bind]
      rcases ih (done ++ [x]) fs1 (by simpa using hsplit) h1 with ⟨hno, fs', hrun, h'⟩ | ⟨⟨y, hy, hFy⟩, herr⟩
      · exact .inl ⟨by simpa [hF] using hno, fs', hrun, by simpa using h'⟩
      · exact .inr ⟨⟨y, List.mem_cons_of_mem _ hy, hFy⟩, herr⟩
    · exact .inr ⟨⟨x, List.mem_cons_self .., hF⟩, by simp only [runOps, hop, OpR.bind]⟩

/-- `runOps_steps` when no step can fail -/
theorem runOps_steps_ok {α : Type} {op : FS → α → OpR FS} {I : List α → FS → Prop} {plan : List α}
    (step : ∀ done x rest fs, plan = done ++ x :: rest → I done fs → ∃ fs', op fs x = .ok fs' ∧ I (done ++ [x]) fs')
    (todo rest done : List α) (fs : FS) (hsplit : plan = done ++ todo ++ rest) (h : I done fs) :
    ∃ fs', runOps op fs todo = .ok fs' ∧ I (done ++ todo) fs' := by
  rcases runOps_steps (F := fun _ => False) (fun d x r fs hs hi => .inl ⟨not_false, step d x r fs hs hi⟩)
    todo rest done fs hsplit h with ⟨-, h⟩ | ⟨⟨_, _, h⟩, -⟩
  · exact h
  · exact h.elim

end Rj
