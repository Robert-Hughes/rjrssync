import RjModel.Model.Planner
/-! The planner's closed form is an inductive invariant of the arrival handlers
(`process_src_entry` / `process_dest_entry`), whichever side's entry arrives next; the same lemma
shows that the `unwrap` in `OrderedMap::update` cannot fire.  `Plan` collects what holds of the planner
state after any arrival sequence; the closed form (C13), the order of the action lists and the lists
themselves (C01) are read off it. -/
namespace Rj

/-- The closed form of `to_delete`: what is planned at `p`, as a function of what the two sides hold there. -/
def delSpec (c : PCfg) (src dst : String → Option Details) (p : String) : Option (Details × DelReason) :=
  match dst p with
  | none => none
  | some d => match src p with
    | none => some (d, .notOnSource)
    | some e => if needsDelete c e d then some (d, .incompatible) else none

/-- The closed form of `to_copy`. -/
def cpySpec (c : PCfg) (src dst : String → Option Details) (p : String) : Option (Details × CopyReason) :=
  match src p with
  | none => none
  | some e => match dst p with
    | none => some (e, .notOnDest)
    | some d => if needsDelete c e d then some (e, .notOnDest) else (needsCopy c e d).map (fun r => (e, r))

def Inv (c : PCfg) (s : PState) : Prop :=
  (∀ p, s.del.get p = delSpec c s.src.get s.dst.get p) ∧
  (∀ p, s.cpy.get p = cpySpec c s.src.get s.dst.get p)

def fresh (s : PState) : Ev → Prop
  | .src p _ => s.src.get p = none
  | .dst p _ => s.dst.get p = none

theorem delSpec_some {c : PCfg} {src dst : String → Option Details} {p : String} {v : Details × DelReason}
    (h : delSpec c src dst p = some v) : dst p = some v.1 := by
  unfold delSpec at h
  split at h
  · cases h
  · split at h
    · cases h; assumption
    · split at h <;> cases h; assumption

theorem cpySpec_some {c : PCfg} {src dst : String → Option Details} {p : String} {v : Details × CopyReason}
    (h : cpySpec c src dst p = some v) : src p = some v.1 := by
  unfold cpySpec at h
  split at h
  · cases h
  · split at h
    · cases h; assumption
    · split at h
      · cases h; assumption
      · obtain ⟨_, _, rfl⟩ := Option.map_eq_some_iff.mp h; assumption

/-- what the arrival `e` made of `s`: the entry is in its side's map, and both action maps have the closed form's value at
its path; a source arrival may have pushed its path on `to_copy` only, a destination arrival on `to_delete` only -/
def Arrived (c : PCfg) (s s' : PState) : Ev → Prop
  | .src p d => s'.src = s.src.add p d ∧ s'.dst = s.dst ∧
      s.del.SetAt s'.del p (delSpec c s'.src.get s'.dst.get p) [] ∧ s.cpy.SetAt s'.cpy p (cpySpec c s'.src.get s'.dst.get p) [p]
  | .dst p d => s'.src = s.src ∧ s'.dst = s.dst.add p d ∧
      s.del.SetAt s'.del p (delSpec c s'.src.get s'.dst.get p) [p] ∧ s.cpy.SetAt s'.cpy p (cpySpec c s'.src.get s'.dst.get p) []

/-- **One arrival**, from a state in closed form: the handlers recompute the closed form at the arrival's path, by the
map operation that fits; `update` finds its key because the other side's entry was planned as `notOnSource` / `notOnDest`. -/
theorem pstep_spec {c : PCfg} {s : PState} {e : Ev} (hi : Inv c s) (hf : fresh s e) :
    ∃ s', pstep c s e = some s' ∧ Arrived c s s' e := by
  -- every leaf: the state `pstep` returns, its source map, its destination map (all `rfl`), then `to_delete`, then `to_copy`
  cases e with
  | src p e =>
    simp only [fresh] at hf
    simp only [pstep]
    cases hdp : s.dst.get p with
    | none => exact ⟨_, rfl, rfl, rfl, .refl (by simp [delSpec, hdp, hi.1 p]), .add _ (by simp [cpySpec, hdp])⟩
    | some d =>
      by_cases hnd : needsDelete c e d = true
      · have hdel : (s.del.get p).isSome := by simp [hi.1 p, delSpec, hdp, hf]
        simp only [hnd, ↓reduceIte, OMap.update_of_isSome hdel, Option.map_some]
        exact ⟨_, rfl, rfl, rfl, .update hdel (by simp [delSpec, hdp, hnd]), .add _ (by simp [cpySpec, hdp, hnd])⟩
      · simp only [hnd, Bool.false_eq_true, ↓reduceIte]
        cases hnc : needsCopy c e d with
        | some r => exact ⟨_, rfl, rfl, rfl, .remove _ (by simp [delSpec, hdp, hnd]), .add _ (by simp [cpySpec, hdp, hnd, hnc])⟩
        | none => exact ⟨_, rfl, rfl, rfl, .remove _ (by simp [delSpec, hdp, hnd]),
            .refl (by simp [cpySpec, hdp, hnd, hnc, hi.2 p, hf])⟩
  | dst p d =>
    simp only [fresh] at hf
    simp only [pstep]
    cases hsp : s.src.get p with
    | none => exact ⟨_, rfl, rfl, rfl, .add _ (by simp [delSpec, hsp]), .refl (by simp [cpySpec, hsp, hi.2 p])⟩
    | some e =>
      by_cases hnd : needsDelete c e d = true
      · simp only [hnd, ↓reduceIte]
        exact ⟨_, rfl, rfl, rfl, .add _ (by simp [delSpec, hsp, hnd]), .refl (by simp [cpySpec, hsp, hnd, hi.2 p, hf])⟩
      · simp only [hnd, Bool.false_eq_true, ↓reduceIte]
        cases hnc : needsCopy c e d with
        | some r =>
          have hcpy : (s.cpy.get p).isSome := by simp [hi.2 p, cpySpec, hsp, hf]
          simp only [OMap.update_of_isSome hcpy, Option.map_some]
          exact ⟨_, rfl, rfl, rfl, .refl (by simp [delSpec, hsp, hnd, hi.1 p, hf]),
            .update hcpy (by simp [cpySpec, hsp, hnd, hnc])⟩
        | none => exact ⟨_, rfl, rfl, rfl, .refl (by simp [delSpec, hsp, hnd, hi.1 p, hf]),
            .remove _ (by simp [cpySpec, hsp, hnd, hnc])⟩

/-- The closed form at a path looks at that path only, and an arrival changes the four maps at its path only. -/
theorem Arrived.inv {c : PCfg} {s s' : PState} {e : Ev} (h : Arrived c s s' e) (hi : Inv c s) : Inv c s' := by
  obtain ⟨p, hs, hd, hdel, hcpy⟩ : ∃ p,
      (∀ q, q ≠ p → s'.src.get q = s.src.get q) ∧ (∀ q, q ≠ p → s'.dst.get q = s.dst.get q) ∧
      (∀ q, s'.del.get q = if q = p then delSpec c s'.src.get s'.dst.get p else s.del.get q) ∧
      (∀ q, s'.cpy.get q = if q = p then cpySpec c s'.src.get s'.dst.get p else s.cpy.get q) := by
    cases e with
    | src p d => exact ⟨p, fun q hq => by simp [h.1, hq], fun q _ => by rw [h.2.1], h.2.2.1.get, h.2.2.2.get⟩
    | dst p d => exact ⟨p, fun q _ => by rw [h.1], fun q hq => by simp [h.2.1, hq], h.2.2.1.get, h.2.2.2.get⟩
  constructor <;> intro q <;> by_cases hq : q = p
  · rw [hdel, if_pos hq, hq]
  · rw [hdel, if_neg hq, hi.1 q]; simp only [delSpec, hs q hq, hd q hq]
  · rw [hcpy, if_pos hq, hq]
  · rw [hcpy, if_neg hq, hi.2 q]; simp only [cpySpec, hs q hq, hd q hq]

theorem step_inv (c : PCfg) (s : PState) (e : Ev) (hi : Inv c s) (hf : fresh s e) :
    ∃ s', pstep c s e = some s' ∧ Inv c s' := by
  obtain ⟨s', h, ha⟩ := pstep_spec hi hf
  exact ⟨s', h, ha.inv hi⟩

def Ev.path : Ev → String
  | .src p _ | .dst p _ => p

def srcOf : List Ev → List (String × Details)
  | [] => []
  | .src p d :: es => (p, d) :: srcOf es
  | .dst _ _ :: es => srcOf es

def dstOf : List Ev → List (String × Details)
  | [] => []
  | .dst p d :: es => (p, d) :: dstOf es
  | .src _ _ :: es => dstOf es

theorem srcOf_append (a b : List Ev) : srcOf (a ++ b) = srcOf a ++ srcOf b := by
  induction a with
  | nil => rfl
  | cons e es ih => cases e <;> simp [srcOf, ih]

theorem dstOf_append (a b : List Ev) : dstOf (a ++ b) = dstOf a ++ dstOf b := by
  induction a with
  | nil => rfl
  | cons e es ih => cases e <;> simp [dstOf, ih]

/-- What holds of the planner state after the arrivals `evs` (each path at most once per side): the closed form; the
entry maps are the listings; each action map tracks its side's paths. -/
structure Plan (c : PCfg) (evs : List Ev) (s : PState) : Prop where
  inv : Inv c s
  src : s.src.get = lookup (srcOf evs).reverse
  dst : s.dst.get = lookup (dstOf evs).reverse
  del : s.del.Tracks ((dstOf evs).map (·.1))
  cpy : s.cpy.Tracks ((srcOf evs).map (·.1))

theorem Plan.init (c : PCfg) : Plan c [] PState.init := ⟨⟨fun _ => rfl, fun _ => rfl⟩, rfl, rfl, .empty, .empty⟩

theorem Plan.step {c : PCfg} {evs : List Ev} {s : PState} {e : Ev} (h : Plan c evs s) (hf : fresh s e) :
    ∃ s', pstep c s e = some s' ∧ Plan c (evs ++ [e]) s' := by
  obtain ⟨s', hs, ha⟩ := pstep_spec h.inv hf
  have hi := ha.inv h.inv
  refine ⟨s', hs, ?_⟩
  cases e with
  | src p d =>
    obtain ⟨e1, e2, hd, hc⟩ := ha
    refine ⟨hi, ?_, by simp [e2, dstOf_append, dstOf, h.dst], by simpa [dstOf_append, dstOf] using hd.tracks h.del,
      by simpa [srcOf_append, srcOf] using hc.tracks h.cpy⟩
    funext q; simp [e1, srcOf_append, srcOf, lookup, h.src, eq_comm]
  | dst p d =>
    obtain ⟨e1, e2, hd, hc⟩ := ha
    refine ⟨hi, by simp [e1, srcOf_append, srcOf, h.src], ?_, by simpa [dstOf_append, dstOf] using hd.tracks h.del,
      by simpa [srcOf_append, srcOf] using hc.tracks h.cpy⟩
    funext q; simp [e2, dstOf_append, dstOf, lookup, h.dst, eq_comm]

theorem prun_plan {c : PCfg} {hist : List Ev} {s : PState} (h : Plan c hist s) (evs : List Ev)
    (hs : ((srcOf (hist ++ evs)).map (·.1)).Nodup) (hd : ((dstOf (hist ++ evs)).map (·.1)).Nodup) :
    ∃ s', prun c s evs = some s' ∧ Plan c (hist ++ evs) s' := by
  induction evs generalizing hist s with
  | nil => exact ⟨s, rfl, by simpa using h⟩
  | cons e es ih =>
    have hf : fresh s e := by
      -- its path is not among those of `hist`, whose listing the entry map is
      cases e with
      | src p d => exact (congrFun h.src p).trans (lookup_reverse_of_nodup (srcOf_append .. ▸ hs))
      | dst p d => exact (congrFun h.dst p).trans (lookup_reverse_of_nodup (dstOf_append .. ▸ hd))
    obtain ⟨s1, h1, p1⟩ := h.step hf
    rw [List.append_cons] at hs hd ⊢
    obtain ⟨s', h2, p2⟩ := ih p1 hs hd
    exact ⟨s', by simp [prun, h1, h2], p2⟩

theorem prun_init (c : PCfg) (evs : List Ev)
    (hs : ((srcOf evs).map (·.1)).Nodup) (hd : ((dstOf evs).map (·.1)).Nodup) :
    ∃ s, prun c PState.init evs = some s ∧ Plan c evs s :=
  prun_plan (.init c) evs hs hd

end Rj
