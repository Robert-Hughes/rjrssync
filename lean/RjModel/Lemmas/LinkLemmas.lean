import RjModel.Model.LinkText
/-! Lemmas about the link-text model: split/join, idempotence of the normal form, UTF-8 round trip. -/
namespace Rj

theorem splitSlash_ne_nil (s : List Char) : splitSlash s ≠ [] := by
  induction s with
  | nil => simp [splitSlash]
  | cons c cs ih =>
    simp only [splitSlash]
    split
    · simp
    · split <;> simp

theorem splitSlash_no_slash (s : List Char) : ∀ p ∈ splitSlash s, '/' ∉ p := by
  induction s with
  | nil => simp [splitSlash]
  | cons c cs ih =>
    simp only [splitSlash]
    cases hsp : splitSlash cs with
    | nil => exact absurd hsp (splitSlash_ne_nil cs)
    | cons h t =>
      rw [hsp, List.forall_mem_cons] at ih
      by_cases hc : c = '/' <;> simpa [hc, ih.1, Ne.symm] using ih.2

theorem splitSlash_append {p : List Char} (h : '/' ∉ p) {s a : List Char} {t : List (List Char)}
    (hs : splitSlash s = a :: t) : splitSlash (p ++ s) = (p ++ a) :: t := by
  induction p with
  | nil => exact hs
  | cons c cs ih =>
    simp only [List.mem_cons, not_or] at h
    simp [splitSlash, ih h.2, Ne.symm h.1]

theorem splitSlash_joinSlash (cs : List (List Char)) (hne : cs ≠ []) (h : ∀ p ∈ cs, '/' ∉ p) :
    splitSlash (joinSlash cs) = cs := by
  induction cs with
  | nil => exact absurd rfl hne
  | cons p rest ih =>
    cases rest with
    | nil => simpa [joinSlash] using splitSlash_append (h p (by simp)) (s := []) rfl
    | cons q rest' =>
      have := ih (by simp) fun x hx => h x (by simp [hx])
      simp only [joinSlash]
      rw [splitSlash_append (h p (by simp)) (a := []) (t := q :: rest') (by simp [splitSlash, this]), List.append_nil]

def keptPart (p : List Char) : Bool := p ≠ [] && p ≠ ['.']

/-- `components` on the split parts: a leading `.` stays, of the rest what `keptPart` lets through -/
def normParts : List (List Char) → List (List Char)
  | ['.'] :: t => ['.'] :: t.filter keptPart
  | l => l.filter keptPart

theorem components_eq (s : List Char) : components s = normParts (splitSlash s) := by
  have hk : (fun p : List Char => decide (p ≠ [] ∧ p ≠ ['.'])) = keptPart := by
    funext p; simp [keptPart]
  unfold components normParts
  split <;> simp_all

theorem normParts_of_kept (f : List (List Char)) (h : ∀ p ∈ f, keptPart p = true) : normParts f = f := by
  unfold normParts
  split
  · next t => have := h ['.'] (by simp); simp [keptPart] at this
  · exact List.filter_eq_self.mpr h

theorem normParts_idem (parts : List (List Char)) : normParts (normParts parts) = normParts parts := by
  fun_cases normParts parts
  · simp [normParts, List.filter_filter]
  · exact normParts_of_kept _ fun p hp => (List.mem_filter.mp hp).2

theorem normParts_sub (parts : List (List Char)) : ∀ p ∈ normParts parts, p ∈ parts ∧ p ≠ [] := by
  intro p hp
  unfold normParts at hp
  split at hp <;> simp [keptPart] at hp ⊢
  · rcases hp with rfl | hp
    · simp
    · exact ⟨.inr hp.1, hp.2.1⟩
  · exact ⟨hp.1, hp.2.1⟩

theorem components_normalForm (t : List Char) : components (normalForm t) = components t := by
  simp only [normalForm, components_eq]
  by_cases hne : normParts (splitSlash t) = []
  · rw [hne]; simp [joinSlash, splitSlash, normParts, keptPart]
  · rw [splitSlash_joinSlash _ hne fun p hp => splitSlash_no_slash t p (normParts_sub _ p hp).1, normParts_idem]

theorem joinSlash_head (cs : List (List Char)) (h : ∀ p ∈ cs, p ≠ [] ∧ '/' ∉ p) : (joinSlash cs).head? ≠ some '/' := by
  cases cs with
  | nil => simp [joinSlash]
  | cons p rest =>
    obtain ⟨h1, h2⟩ := h p (by simp)
    cases p with
    | nil => exact absurd rfl h1
    | cons c cs' =>
      simp only [List.mem_cons, not_or] at h2
      cases rest <;> simp [joinSlash] <;> exact fun e => h2.1 e.symm

theorem refused_normalForm (t : List Char) (h : refused t = false) : refused (normalForm t) = false := by
  simp only [refused, Bool.or_eq_false_iff] at *
  refine ⟨?_, ?_⟩
  · have := joinSlash_head (components t) (fun p hp => by
      rw [components_eq] at hp
      exact ⟨(normParts_sub _ p hp).2, splitSlash_no_slash t p (normParts_sub _ p hp).1⟩)
    simp only [normalForm]; exact decide_eq_false this
  · rw [components_normalForm]; exact h.2

theorem decode_utf8 (t : List Char) : decodeUtf8 (utf8 t) = some t := by
  simp only [decodeUtf8, utf8, String.toUTF8_eq_toByteArray, String.toByteArray_ofList, Array.toArray_toList]
  have : (⟨t.utf8Encode.data⟩ : ByteArray) = t.utf8Encode := rfl
  rw [this, List.utf8Decode?_utf8Encode]; simp

theorem map_slash_id (l : List Char) : l.map (fun c => if c = '/' then '/' else c) = l :=
  List.map_id'' (fun c => by split <;> simp_all) l

/-- **Link text round trip**: a link written from a target that was read reads back as that target -/
theorem readLinkB_roundtrip (b : List UInt8) : readLinkB (writeLinkB '/' (readLinkB b)) = readLinkB b := by
  unfold readLinkB
  cases h : decodeUtf8 b with
  | none => simp [writeLinkB, h]
  | some t =>
    by_cases hr : refused t = true
    · simp [hr, writeLinkB, h]
    · have hr' : refused t = false := by simpa using hr
      have hn : normalForm (normalForm t) = normalForm t := by
        show joinSlash (components (normalForm t)) = normalForm t
        rw [components_normalForm]; rfl
      simp only [hr', Bool.false_eq_true, ↓reduceIte, writeLinkB, String.toList_ofList, map_slash_id, decode_utf8,
        refused_normalForm t hr', hn]

end Rj
