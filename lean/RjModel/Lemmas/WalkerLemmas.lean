import RjModel.Model.Walker
namespace Rj.Walker

/-! Potential function: every step strictly decreases it ⇒ every execution is finite.  An entry not yet looked at
weighs 10.  That pays for its result (1) and, if it is a directory, for the way of its job: a worker that has sent the entry
9, that has incremented the counter 8, the queued job 4 beside the worker's own 3, the taken job 3, nothing when the worker
has finished it.  The last finisher queues `n` `done` jobs (1 each) and pays for them with `pend`. -/

def Job.wt : Job → Nat | .dir kids => 4 + 10 * szs kids | .done => 1

def WS.wt : WS → Nat
  | .idle => 0 | .exited => 0
  | .busy rem => 3 + 10 * szs rem
  | .afterSend kids rem => 9 + 10 * szs kids + 10 * szs rem
  | .afterInc kids rem => 8 + 10 * szs kids + 10 * szs rem

def sumJ : List Job → Nat | [] => 0 | j :: js => j.wt + sumJ js

def sumW : List WS → Nat | [] => 0 | w :: ws => w.wt + sumW ws

def pend (b : Bool) (n : Nat) : Nat := if b then 0 else n + 1

def phi (n : Nat) (s : St) : Nat :=
  sumJ s.jobs + sumW s.ws + s.results.length + pend s.doneSent n

/-- a sum over the workers splits into worker `w`'s share and the rest, which `set w` leaves alone -/
theorem sum_split {α} (g : α → Nat) {l : List α} {w : Nat} {old : α} (h : l[w]? = some old) :
    ∃ r, (l.map g).sum = r + g old ∧ ∀ new, ((l.set w new).map g).sum = r + g new := by
  induction l generalizing w with
  | nil => simp at h
  | cons x xs ih =>
    cases w with
    | zero => simp at h; subst h; exact ⟨(xs.map g).sum, by simp [Nat.add_comm], fun _ => by simp [Nat.add_comm]⟩
    | succ k =>
      simp at h; obtain ⟨r, e1, e2⟩ := ih h
      exact ⟨g x + r, by simp [e1, Nat.add_assoc], fun _ => by simp [-List.map_set, e2, Nat.add_assoc]⟩

theorem sumJ_eq (l : List Job) : sumJ l = (l.map Job.wt).sum := by
  induction l with | nil => rfl | cons _ _ ih => simp only [sumJ, ih, List.map_cons, List.sum_cons]

theorem sumW_eq (l : List WS) : sumW l = (l.map WS.wt).sum := by
  induction l with | nil => rfl | cons _ _ ih => simp only [sumW, ih, List.map_cons, List.sum_cons]

theorem phi_decreases (n cap : Nat) (s s' : St) (a : Act) (h : step n cap s a = some s') :
    phi n s' < phi n s := by
  revert h
  fun_cases step n cap s a <;> intro h <;> cases h <;> simp only [phi, sumJ_eq, sumW_eq, setW]
  rotate_right
  next r rs hr => simp [hr]   -- the last branch of `step`, `consume`
  -- every other step is worker `w`'s: its share of the sum changes, a job or a result may come or go
  all_goals
    obtain ⟨r, e1, e2⟩ := sum_split WS.wt ‹s.ws[_]? = some _›
    simp [-List.map_set, *, Job.wt, WS.wt, szs, T.sz, pend] <;> omega

/-! ### conservation: how often an id is still to be emitted / queued / delivered -/

def cntL (i : Nat) : List Nat → Nat
  | [] => 0
  | x :: xs => (if x = i then 1 else 0) + cntL i xs

theorem cntL_append (i : Nat) (a b : List Nat) : cntL i (a ++ b) = cntL i a + cntL i b := by
  induction a with
  | nil => simp [cntL]
  | cons x xs ih => simp [cntL, ih]; omega

def Job.c (i : Nat) : Job → Nat | .dir kids => cnts i kids | .done => 0

def WS.c (i : Nat) : WS → Nat
  | .idle => 0 | .exited => 0
  | .busy rem => cnts i rem
  | .afterSend kids rem => cnts i kids + cnts i rem
  | .afterInc kids rem => cnts i kids + cnts i rem

/-- occurrences of id `i` anywhere in the system -/
def total (i : Nat) (s : St) : Nat :=
  (s.jobs.map (Job.c i)).sum + (s.ws.map (WS.c i)).sum + cntL i s.results + cntL i s.consumed

theorem total_preserved (i : Nat) {n cap : Nat} {s s' : St} {a : Act} (h : step n cap s a = some s') :
    total i s' = total i s := by
  revert h
  fun_cases step n cap s a <;> intro h <;> cases h <;> simp only [total, setW]
  rotate_right
  next r rs hr => simp [hr, cntL_append, cntL]; omega   -- the last branch of `step`, `consume`
  all_goals
    obtain ⟨r, e1, e2⟩ := sum_split (WS.c i) ‹s.ws[_]? = some _›
    simp [-List.map_set, *, Job.c, WS.c, cnts, T.cnt, cntL_append, cntL] <;> omega

theorem total_runSched (i n cap : Nat) (sched : List Act) : ∀ s, total i (runSched n cap s sched) = total i s := by
  induction sched with
  | nil => intro s; rfl
  | cons a as ih =>
    intro s
    simp only [runSched]
    cases h : step n cap s a with
    | none => exact ih s
    | some s' => rw [ih s', total_preserved i h]

end Rj.Walker
