import RjModel.Model.Wire
namespace Rj.Wire

@[simp] theorem length_leBytes (n v : Nat) : (leBytes n v).length = n := by
  induction n generalizing v with
  | zero => rfl
  | succ k ih => simp [leBytes, ih]

theorem leVal_leBytes (n v : Nat) (h : v < 256 ^ n) : leVal (leBytes n v) = v := by
  induction n generalizing v with
  | zero => simp at h; subst h; rfl
  | succ k ih =>
    have hk : v / 256 < 256 ^ k := by
      rw [Nat.pow_succ] at h
      exact Nat.div_lt_of_lt_mul (by rw [Nat.mul_comm]; exact h)
    simp only [leBytes, leVal, ih _ hk, UInt8.toNat_ofNat', Nat.reducePow, Nat.mod_mod]
    exact Nat.mod_add_div v 256

theorem take?_append (a r : B) : take? a.length (a ++ r) = some (a, r) := by
  simp [take?]

theorem dNat_leBytes (n v : Nat) (r : B) (h : v < 256 ^ n) : dNat n (leBytes n v ++ r) = some (v, r) := by
  have := take?_append (leBytes n v) r
  rw [length_leBytes] at this
  simp [dNat, this, leVal_leBytes n v h]

theorem dNat4 {v : Nat} {r : B} (h : u32 v) : dNat 4 (leBytes 4 v ++ r) = some (v, r) := dNat_leBytes 4 v r h

theorem dNat8 {v : Nat} {r : B} (h : u64 v) : dNat 8 (leBytes 8 v ++ r) = some (v, r) := dNat_leBytes 8 v r h

theorem dBytes_eBytes (d : B) {r : B} (h : wfB d) : dBytes (eBytes d ++ r) = some (d, r) := by
  simp only [dBytes, eBytes, List.append_assoc, dNat8 h, Option.bind_some, take?_append]

theorem dBool_eBool (x : Bool) (r : B) : dBool (eBool x ++ r) = some (x, r) := by
  cases x <;> rfl

/-- 13: the variants of `WCmd`, the largest sum type of the wire format -/
theorem tag_u32 (n : Nat) (h : n < 13) : u32 n := by unfold u32; omega

/-- Every sum type starts with a `u32` variant index, and the decoders branch on it: reading the index
back hands the rest to the continuation.  Rewriting with this *before* simplifying selects the one arm
of the decoder that matters (simplifying first would visit all of them). -/
theorem bind_dTag {α} {n : Nat} {r : B} (h : n < 13) (k : Nat × B → Option α) :
    (dNat 4 (leBytes 4 n ++ r)).bind k = k (n, r) := by
  rw [dNat4 (tag_u32 n h)]; rfl

theorem dKind_eKind (k : WKind) (r : B) : dKind (eKind k ++ r) = some (k, r) := by
  cases k <;> rw [eKind, dKind, bind_dTag (by decide)] <;> rfl

theorem dTarget_eTarget (t : WTarget) {r : B} (h : wfTarget t) : dTarget (eTarget t ++ r) = some (t, r) := by
  cases t <;> rw [eTarget, List.append_assoc, dTarget, bind_dTag (by decide)] <;>
    simp only [dBytes_eBytes _ h, Option.map_some]

theorem dDetails_eDetails (d : WDetails) {r : B} (h : wfDetails d) : dDetails (eDetails d ++ r) = some (d, r) := by
  cases d <;> simp only [eDetails, List.append_assoc] <;> rw [dDetails, bind_dTag (by decide)]
  case file s n z => simp only [dNat8 h.1, dNat4 h.2.1, dNat8 h.2.2, Option.bind_some, Option.map_some]
  case folder => rfl
  case symlink k t => simp only [dKind_eKind, dTarget_eTarget t h, Option.bind_some, Option.map_some]

theorem dPhase_ePhase (p : WPhase) {r : B} (h : wfPhase p) : dPhase (ePhase p ++ r) = some (p, r) := by
  cases p <;> simp only [ePhase, List.append_assoc] <;> rw [dPhase, bind_dTag (by decide)]
  case deleting n => simp only [dNat4 h, Option.map_some]
  case copying n b => simp only [dNat4 h.1, dNat8 h.2, Option.bind_some, Option.map_some]
  case done => rfl

theorem dMarker_eMarker (m : WMarker) {r : B} (h : wfMarker m) : dMarker (eMarker m ++ r) = some (m, r) := by
  simp only [dMarker, eMarker, List.append_assoc, dNat8 h.1, dPhase_ePhase _ h.2, Option.bind_some, Option.map_some]

theorem dStrs_eStrs (l : List B) {r : B} (h : ∀ p ∈ l, wfB p) : dStrs l.length (eStrs l ++ r) = some (l, r) := by
  induction l with
  | nil => rfl
  | cons s rest ih =>
    simp only [dStrs, eStrs, List.length_cons, List.append_assoc, dBytes_eBytes s (h s (List.mem_cons_self ..)),
      ih (fun p hp => h p (List.mem_cons_of_mem _ hp)), Option.bind_some, Option.map_some]

theorem dKinds_eKinds (l : List Bool) (r : B) : dKinds l.length (eKinds l ++ r) = some (l, r) := by
  induction l with
  | nil => rfl
  | cons k rest ih =>
    cases k <;> rw [List.length_cons, dKinds, eKinds, List.append_assoc, bind_dTag (by decide)] <;>
      simp only [ih, Option.map_some, Bool.false_eq_true, ↓reduceIte]

theorem dOptTime_eOptTime (t : Option (Nat × Nat)) {r : B} (h : ∀ s n, t = some (s, n) → u64 s ∧ u32 n) :
    dOptTime (eOptTime t ++ r) = some (t, r) := by
  cases t with
  | none => rfl
  | some sn =>
    obtain ⟨h1, h2⟩ := h sn.1 sn.2 rfl
    simp [dOptTime, eOptTime, List.append_assoc, dNat8 h1, dNat4 h2]

theorem dOptDetails_eOptDetails (d : Option WDetails) {r : B} (h : ∀ x, d = some x → wfDetails x) :
    dOptDetails (eOptDetails d ++ r) = some (d, r) := by
  cases d with
  | none => rfl
  | some x => simp [dOptDetails, eOptDetails, dDetails_eDetails x (h x rfl)]

end Rj.Wire
