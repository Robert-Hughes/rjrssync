import RjModel.Model.Doer
import RjModel.Lemmas.SyncLemmas
/-! The model's own listings satisfy what `sync_mirror` assumes of a listing.  Everything is proved of the listing under
filters (`listNodesF`): it reports exactly the entries the walk can reach — those all of whose prefixes below the root are
kept (`visOf`) — parents first.  The plain listing (`listNodes`) is the case "everything is kept". -/
namespace Rj

theorem listNodes_eq_listNodesF (r : FPath) (fs : FS) (f : Nat) (dir : FPath) :
    listNodes fs f dir = listNodesF (fun _ => true) r fs f dir := by
  induction f generalizing dir with
  | zero => rfl
  | succ f ih => simp only [listNodes, listNodesF, ih, ↓reduceIte]

/-- the listing under filters is a sub-list of the plain one: the same order, entries left out -/
theorem listNodesF_sublist (keep : FPath → Bool) (r : FPath) (fs : FS) (f : Nat) (dir : FPath) :
    (listNodesF keep r fs f dir).Sublist (listNodes fs f dir) := by
  induction f generalizing dir with
  | zero => exact .slnil
  | succ f ih =>
    simp only [listNodesF, listNodes]
    induction fs.childrenOf dir with
    | nil => exact .slnil
    | cons e es ihc =>
      refine .append ?_ ihc
      dsimp only
      split
      · refine .cons_cons e ?_
        split
        · exact ih e.1
        · exact .refl _
      · exact List.nil_sublist _

variable {keep : FPath → Bool} {r p : FPath} {fs : FS} {f : Nat} {dir : FPath} {e x : FPath × Node}

theorem visOf_iff : visOf keep p = true ↔ ∀ k, 0 < k → k ≤ p.length → keep (p.take k) = true := by
  simp only [visOf, List.all_eq_true, List.mem_range]
  constructor
  · intro h k hk0 hk
    have := h (k - 1) (by omega)
    rwa [Nat.sub_add_cancel hk0] at this
  · intro h k hk
    exact h (k + 1) (by omega) (by omega)

theorem visOf_take (k : Nat) (h : visOf keep p = true) : visOf keep (p.take k) = true := by
  rw [visOf_iff] at h ⊢
  intro j hj0 hj
  rw [List.length_take] at hj
  rw [List.take_take, Nat.min_eq_left (by omega)]
  exact h j hj0 (by omega)

theorem visOf_true : visOf (fun _ => true) = fun _ => true := by
  funext p; simp [visOf]

/-- what a child contributes: itself if it is kept, and then — if it is a folder — what is listed beneath it -/
theorem mem_blockF : x ∈ (if keep (e.1.drop r.length) = true then
      e :: (if e.2 = .folder then listNodesF keep r fs f e.1 else []) else []) ↔
    keep (e.1.drop r.length) = true ∧ (x = e ∨ e.2 = .folder ∧ x ∈ listNodesF keep r fs f e.1) := by
  by_cases hk : keep (e.1.drop r.length) = true <;> by_cases hf : e.2 = .folder <;> simp [hk, hf]

theorem mem_listNodesF_succ : x ∈ listNodesF keep r fs (f + 1) dir ↔ ∃ e ∈ fs.childrenOf dir,
    keep (e.1.drop r.length) = true ∧ (x = e ∨ e.2 = .folder ∧ x ∈ listNodesF keep r fs f e.1) := by
  simp only [listNodesF, List.mem_flatMap, mem_blockF]

theorem listNodesF_sound (hw : fs.Wf) (h : x ∈ listNodesF keep r fs f dir) :
    fs.get x.1 = some x.2 ∧ dir <+: x.1 ∧ x.1 ≠ dir ∧
      ∀ k, dir.length < k → k ≤ x.1.length → keep ((x.1.take k).drop r.length) = true := by
  induction f generalizing dir with
  | zero => simp [listNodesF] at h
  | succ f ih =>
    obtain ⟨e, he, hk, hin⟩ := mem_listNodesF_succ.mp h
    obtain ⟨hen, c, hshape⟩ := mem_childrenOf.mp he
    have hpre : dir <+: e.1 := hshape ▸ List.prefix_append _ _
    have hlen : e.1.length = dir.length + 1 := by rw [hshape]; simp
    rcases hin with rfl | ⟨-, h1⟩
    · refine ⟨hw.get_of_mem (by simp [hshape]) hen, hpre, fun e1 => by simp [e1] at hlen, fun k hk1 hk2 => ?_⟩
      rwa [show k = x.1.length by omega, List.take_length]
    · obtain ⟨g1, g2, -, g4⟩ := ih h1
      have := g2.length_le
      refine ⟨g1, hpre.trans g2, fun e1 => by rw [e1] at this; omega, fun k hk1 hk2 => ?_⟩
      by_cases hke : k = e.1.length
      · rwa [hke, ← List.prefix_iff_eq_take.mp g2]
      · exact g4 k (by omega) hk2

theorem listNodesF_parentFirst (hw : fs.Wf) : (listNodesF keep r fs f dir).Pairwise (fun a b => ¬ b.1 <+: a.1) := by
  induction f generalizing dir with
  | zero => simp [listNodesF]
  | succ f ih =>
    simp only [listNodesF]
    rw [List.pairwise_flatMap]
    constructor
    · intro e he
      split
      · refine List.pairwise_cons.mpr ⟨fun b hb hpre => ?_, ?_⟩
        · split at hb
          · obtain ⟨-, g2, g3, -⟩ := listNodesF_sound hw hb
            exact g3 (hpre.eq_of_length_le g2.length_le)
          · cases hb
        · split
          · exact ih
          · exact .nil
      · exact .nil
    · -- different children: what they contribute lies under different paths of the same length
      have hblock : ∀ {e x : FPath × Node}, x = e ∨ e.2 = .folder ∧ x ∈ listNodesF keep r fs f e.1 → e.1 <+: x.1 := by
        rintro e x (rfl | ⟨-, h⟩)
        · exact List.prefix_refl _
        · exact (listNodesF_sound hw h).2.1
      have hdist : (fs.childrenOf dir).Pairwise (fun a b => a.1 ≠ b.1) := (List.pairwise_map.mp hw).filter _
      refine hdist.imp_of_mem ?_
      intro a1 a2 ha1 ha2 hne x hx y hy hxy
      have p1 := hblock (mem_blockF.mp hx).2
      have p2 := (hblock (mem_blockF.mp hy).2).trans hxy
      obtain ⟨-, c1, e1⟩ := mem_childrenOf.mp ha1
      obtain ⟨-, c2, e2⟩ := mem_childrenOf.mp ha2
      exact hne ((List.prefix_of_prefix_length_le p1 p2 (by simp [e1, e2])).eq_of_length (by simp [e1, e2]))

theorem listNodesF_complete {rest : FPath} {n : Node} (hrest : rest ≠ []) (hlen : rest.length ≤ f)
    (hget : fs.get (dir ++ rest) = some n)
    (hfold : ∀ k, 0 < k → k < rest.length → fs.get (dir ++ rest.take k) = some .folder)
    (hkeep : ∀ k, 0 < k → k ≤ rest.length → keep ((dir ++ rest.take k).drop r.length) = true) :
    (dir ++ rest, n) ∈ listNodesF keep r fs f dir := by
  induction f generalizing dir rest with
  | zero => exact absurd (List.length_eq_zero_iff.mp (by omega)) hrest
  | succ f ih =>
    cases rest with
    | nil => exact absurd rfl hrest
    | cons c rest' =>
      have hk1 := hkeep 1 (by omega) (by simp)
      simp only [List.take_succ_cons, List.take_zero] at hk1
      refine mem_listNodesF_succ.mpr ?_
      cases rest' with
      | nil => exact ⟨_, child_mem hget, hk1, .inl rfl⟩
      | cons c2 rest'' =>
        have hc := hfold 1 (by omega) (by simp)
        simp only [List.take_succ_cons, List.take_zero] at hc
        refine ⟨_, child_mem hc, hk1, .inr ⟨rfl, ?_⟩⟩
        rw [List.append_cons dir c (c2 :: rest'')] at hget ⊢
        refine ih (by simp) (by simp at hlen ⊢; omega) hget ?_ ?_
        · intro k hk0 hk
          simpa using hfold (k + 1) (by omega) (by simp at hk ⊢; omega)
        · intro k hk0 hk
          simpa using hkeep (k + 1) (by omega) (by simp at hk ⊢; omega)

/-- the listing of the root `r` under filters, paths made relative — what both doers hand the boss -/
def relListing (keep : FPath → Bool) (fs : FS) (r : FPath) (f : Nat) : List (FPath × Node) :=
  (listNodesF keep r fs f r).map fun e => (e.1.drop r.length, e.2)

theorem mem_relListing (hw : fs.Wf)
    (hfold : ∀ p, fs.get (r ++ p) ≠ none → ∀ k, 0 < k → k < p.length → fs.get (r ++ p.take k) = some .folder)
    (hfuel : ∀ p, fs.get (r ++ p) ≠ none → p.length ≤ f) (p : FPath) (n : Node) :
    (p, n) ∈ relListing keep fs r f ↔ (p ≠ [] ∧ visOf keep p = true ∧ fs.get (r ++ p) = some n) := by
  constructor
  · intro h
    obtain ⟨⟨q, m⟩, he, heq⟩ := List.mem_map.mp h
    obtain ⟨g1, ⟨t, rfl⟩, g3, hk⟩ := listNodesF_sound hw he
    simp only [List.drop_left, Prod.mk.injEq] at heq
    obtain ⟨rfl, rfl⟩ := heq
    refine ⟨fun e1 => by simp [e1] at g3, visOf_iff.mpr fun k hk0 hkl => ?_, g1⟩
    have := hk (r.length + k) (by omega) (by simp; omega)
    rwa [List.take_length_add_append, List.drop_left] at this
  · intro ⟨hp, hv, hg⟩
    have := listNodesF_complete hp (hfuel p (by simp [hg])) hg (hfold p (by simp [hg]))
      fun k hk0 hk => by rw [List.drop_left]; exact visOf_iff.mp hv k hk0 hk
    exact List.mem_map.mpr ⟨(r ++ p, n), this, by simp⟩

theorem relListing_parentFirst (hw : fs.Wf) :
    (relListing keep fs r f).Pairwise (fun a b => ¬ b.1 <+: a.1) := by
  rw [relListing, List.pairwise_map]
  refine (listNodesF_parentFirst hw).imp_of_mem fun {a b} ha hb hnp hpre => hnp ?_
  obtain ⟨s, hs⟩ := (listNodesF_sound hw ha).2.1
  obtain ⟨t, ht⟩ := (listNodesF_sound hw hb).2.1
  rw [← hs, ← ht] at hpre ⊢
  simpa using hpre

/-- **The model's own listing satisfies the assumptions of `sync_mirror`** with `vis := visOf keep`: for a file system
value with one entry per path, a root that is a folder with folder ancestors, a tree-closed destination below it and
enough fuel for its depth, the listing of the root (paths made relative) is complete, exact and parents-first. -/
theorem destWF_of_listNodesF (keep : FPath → Bool) (fs : FS) (hw : fs.Wf) (r : FPath)
    (hroot : fs.get r = some .folder) (hanc : ∀ k, k < r.length → fs.get (r.take k) = some .folder)
    (hclosed : ∀ p, p ≠ [] → fs.get (r ++ p) ≠ none → fs.get (r ++ p.dropLast) = some .folder)
    (f : Nat) (hfuel : ∀ p, fs.get (r ++ p) ≠ none → p.length ≤ f) :
    DestWF (visOf keep) fs r ((listNodesF keep r fs f r).map fun e => (e.1.drop r.length, e.2)) :=
  ⟨hroot, hanc, hclosed,
    mem_relListing hw
      (prefixes_folders (fun q => fs.get (r ++ q)) Node.folder fun q hq hq' _ => hclosed q hq hq') hfuel,
    relListing_parentFirst hw⟩

/-- `destWF_of_listNodesF` for the plain listing: "everything is kept" -/
theorem destWF_of_listNodes (fs : FS) (hw : fs.Wf) (r : FPath)
    (hroot : fs.get r = some .folder) (hanc : ∀ k, k < r.length → fs.get (r.take k) = some .folder)
    (hclosed : ∀ p, p ≠ [] → fs.get (r ++ p) ≠ none → fs.get (r ++ p.dropLast) = some .folder)
    (f : Nat) (hfuel : ∀ p, fs.get (r ++ p) ≠ none → p.length ≤ f) :
    DestWF (fun _ => true) fs r ((listNodes fs f r).map fun e => (e.1.drop r.length, e.2)) := by
  have := destWF_of_listNodesF (fun _ => true) fs hw r hroot hanc hclosed f hfuel
  rwa [visOf_true, ← listNodes_eq_listNodesF] at this

/-- the details a listed node is reported with (when `entry_details_from_metadata` succeeds) -/
def detOr (fs : FS) (abs : List Comp) (e : FPath × Node) : Details :=
  match detailsOf fs abs e.1 e.2 with
  | .ok d => d
  | .error _ => .folder

/-- an entry the doer can report: a name without a backslash, a regular kind, a time at or after the epoch -/
def Reportable (fs : FS) (abs : List Comp) (e : FPath × Node) : Prop :=
  (e.1.getLast?.getD []).contains '\\' = false ∧ ∃ d, detailsOf fs abs e.1 e.2 = .ok d

theorem listStep_reportable (fs : FS) (abs : List Comp) (keep' : String → Bool) (root : FPath)
    (sub : FPath → List (String × Details) × List ErrClass)
    (acc : List (String × Details) × List ErrClass) (e : FPath × Node) (h : Reportable fs abs e) :
    listStep fs abs keep' root sub acc e =
      if keep' (relString root e.1) then
        (acc.1 ++ (relString root e.1, detOr fs abs e) :: (if e.2 = .folder then (sub e.1).1 else []),
          acc.2 ++ (if e.2 = .folder then (sub e.1).2 else []))
      else acc := by
  obtain ⟨h1, d, h2⟩ := h
  have hn : ¬ '\\' ∈ e.1.getLast?.getD [] := by simpa using h1
  obtain ⟨p, n⟩ := e
  cases n <;> (simp only [listStep, detOr, h2]; by_cases hk : keep' (relString root p) = true <;> simp [hn, hk])

/-- what is assumed of a source tree: below its root only files with a time stamp, folders and links
whose text can be written on the destination; tree-closed; fuel for its depth -/
structure SrcTreeOk (S : FS) (rs : FPath) (f : Nat) : Prop where
  wf : S.Wf
  kinds : ∀ p n, p ≠ [] → S.get (rs ++ p) = some n → (sentryOf n).isSome
  closed : ∀ p, p ≠ [] → S.get (rs ++ p) ≠ none → p.dropLast ≠ [] → S.get (rs ++ p.dropLast) = some .folder
  fuel : ∀ p, S.get (rs ++ p) ≠ none → p.length ≤ f
  links : ∀ p text, S.get (rs ++ p) = some (.symlink text) →
    writeLinkB '/' (readLinkB text) ≠ [] ∧ (0 : UInt8) ∉ writeLinkB '/' (readLinkB text)

theorem srcWF_of_treeF (keep : FPath → Bool) (S : FS) (rs : FPath) (f : Nat) (h : SrcTreeOk S rs f) :
    SrcWF (visOf keep) (srcOfFS S rs) (lsOfFSF keep S rs f) := by
  have hfold := prefixes_folders (fun q => S.get (rs ++ q)) Node.folder h.closed
  have hls : lsOfFSF keep S rs f = (relListing keep S rs f).filterMap fun x => (sentryOf x.2).map fun s => (x.1, s) := by
    simp [lsOfFSF, relListing, List.filterMap_map, Function.comp_def]
  refine ⟨?_, ?_, fun p k hv => visOf_take k hv, ?_, ?_⟩
  · intro p hp hsp hd
    simp only [srcOfFS] at hsp ⊢
    rw [h.closed p hp (by intro e; simp [e] at hsp) hd]; rfl
  · intro p e
    simp only [hls, List.mem_filterMap, Prod.exists, mem_relListing h.wf hfold h.fuel, srcOfFS,
      Option.map_eq_some_iff, Prod.mk.injEq, Option.bind_eq_some_iff]
    constructor
    · rintro ⟨q, n, ⟨h1, h2, h3⟩, s, hs, rfl, rfl⟩
      exact ⟨h1, h2, n, h3, hs⟩
    · rintro ⟨h1, h2, n, h3, hs⟩
      exact ⟨p, n, ⟨h1, h2, h3⟩, e, hs, rfl, rfl⟩
  · rw [hls]
    refine (relListing_parentFirst h.wf).filterMap _ fun a a' hR b hb b' hb' => ?_
    cases ha : sentryOf a.2 <;> cases ha' : sentryOf a'.2 <;> simp [ha, ha'] at hb hb'
    rw [← hb, ← hb']; exact hR
  · intro p t hsp
    obtain ⟨n, hn, hs⟩ := Option.bind_eq_some_iff.mp hsp
    cases n with
    | symlink text => cases hs; exact ⟨⟨text, rfl⟩, h.links p text hn⟩
    | file b m => cases m <;> cases hs
    | _ => cases hs

theorem srcWF_of_tree (S : FS) (rs : FPath) (f : Nat) (h : SrcTreeOk S rs f) :
    SrcWF (fun _ => true) (srcOfFS S rs) (lsOfFS S rs f) := by
  have := srcWF_of_treeF (fun _ => true) S rs f h
  rwa [visOf_true, lsOfFSF, ← listNodes_eq_listNodesF] at this

end Rj
