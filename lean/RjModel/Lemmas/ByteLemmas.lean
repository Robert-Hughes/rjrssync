import RjModel.Model.ExeValid
/-! Byte vectors as `exe_utils.rs` uses them: windows (`slice`), in-place patches (`patch`), `Vec::splice`, little-endian fields,
the steps of the `R` monad, `align`, `read_string`, loops over the entries of a table.  All of it is about variables and knows
neither ELF nor PE (`Lemmas/ExeLemmas.lean`, `Lemmas/PeLemmas.lean`).

Side conditions are arithmetic.  An `omega` call is dear, in the kernel above all, and the dearer the more hypotheses it has to
combine: so the window reasoning sits here, where the contexts are small, and the lemmas that step through a run take their bounds
in the shape in which a layout gives them - an access `a + c + n` inside a region that ends at `e` (`within`), a region inside a
vector (`e ≤ b.length`), a vector that is addressable (`b.length < U64`) - so that a caller in a large context passes terms. -/
namespace Rj.Exe

def patch (b : Bytes) (off : Nat) (bs : Bytes) : Bytes := b.take off ++ bs ++ b.drop (off + bs.length)

theorem getElem?_slice (b : Bytes) (o n i : Nat) : (slice b o n)[i]? = if i < n then b[o + i]? else none := by
  unfold slice
  rw [List.getElem?_take]
  split
  · rw [List.getElem?_drop]
  · rfl

theorem length_slice (b : Bytes) (o n : Nat) (h : o + n ≤ b.length) : (slice b o n).length = n := by
  rw [slice, List.length_take, List.length_drop]; omega

theorem length_slice_le (b : Bytes) (o n : Nat) : (slice b o n).length ≤ n := by
  unfold slice; rw [List.length_take]; exact Nat.min_le_left _ _

theorem slice_congr (b b' : Bytes) (o o' n : Nat) (h : ∀ i, i < n → b[o + i]? = b'[o' + i]?) :
    slice b o n = slice b' o' n := by
  apply List.ext_getElem?
  intro i
  rw [getElem?_slice, getElem?_slice]
  split
  · next hi => exact h i hi
  · rfl

theorem getElem?_of_slice {b l : Bytes} {o n : Nat} (h : slice b o n = l) {i : Nat} (hi : i < n) : b[o + i]? = l[i]? := by
  rw [← h, getElem?_slice, if_pos hi]

theorem slice_full (b : Bytes) : slice b 0 b.length = b := by
  simp [slice]

theorem slice_drop (b : Bytes) (k o n : Nat) : slice (b.drop k) o n = slice b (k + o) n :=
  slice_congr _ _ _ _ _ fun i _ => by rw [List.getElem?_drop, Nat.add_assoc]

theorem slice_take (b : Bytes) (k o n : Nat) (h : o + n ≤ k) : slice (b.take k) o n = slice b o n :=
  slice_congr _ _ _ _ _ fun i hi => by rw [List.getElem?_take, if_pos (by omega)]

theorem slice_append_left {x y : Bytes} {o n : Nat} (h : o + n ≤ x.length) : slice (x ++ y) o n = slice x o n :=
  slice_congr _ _ _ _ _ fun i hi => by rw [List.getElem?_append_left (by omega)]

/-- behind a vector of known length: stated with the sum, so that no index has to be subtracted -/
theorem getElem?_append_at {x : Bytes} {L : Nat} (hx : x.length = L) (y : Bytes) (i : Nat) : (x ++ y)[L + i]? = y[i]? := by
  rw [← hx, List.getElem?_append_right (by omega), Nat.add_sub_cancel_left]

theorem slice_append_at {x : Bytes} {L : Nat} (hx : x.length = L) (y : Bytes) (o n : Nat) :
    slice (x ++ y) (L + o) n = slice y o n :=
  slice_congr _ _ _ _ _ fun i _ => by rw [Nat.add_assoc, getElem?_append_at hx]

theorem slice_prefix {b x y : Bytes} {o n : Nat} (h : slice b o n = x ++ y) : slice b o x.length = x := by
  have hn : x.length ≤ n := Nat.le_trans (Nat.le_add_right _ y.length) (List.length_append ▸ h ▸ length_slice_le b o n)
  rw [slice, ← Nat.min_eq_left hn, ← List.take_take, ← slice, h, List.take_left' rfl]

/-! ### Patches.  The `_of` forms name the two lengths (`hl`, `hn`), so that a patch on a patch, or one with `leBytes`, needs no
rewriting. -/

theorem length_patch_of {b bs : Bytes} {off n L : Nat} (hl : b.length = L) (hn : bs.length = n) (h : off + n ≤ L) :
    (patch b off bs).length = L := by
  unfold patch
  rw [List.length_append, List.length_append, List.length_take, List.length_drop, hl, hn,
    Nat.min_eq_left (Nat.le_of_add_right_le h), Nat.add_sub_cancel' h]

theorem length_patch (b : Bytes) (off : Nat) (bs : Bytes) (h : off + bs.length ≤ b.length) :
    (patch b off bs).length = b.length :=
  length_patch_of rfl rfl h

theorem getElem?_patch_of {b bs : Bytes} {off n L : Nat} (hl : b.length = L) (hn : bs.length = n) (h : off + n ≤ L) (j : Nat) :
    (patch b off bs)[j]? = if j < off then b[j]? else if j < off + n then bs[j - off]? else b[j]? := by
  have ht : (b.take off).length = off := List.length_take_of_le (hl ▸ Nat.le_of_add_right_le h)
  unfold patch
  rw [List.append_assoc]
  split
  · next h1 => rw [List.getElem?_append_left (ht.symm ▸ h1), List.getElem?_take, if_pos h1]
  · next h1 =>
    -- behind a segment the index is a sum: `j = off + k`, and behind the patch `k = n + i`
    obtain ⟨k, rfl⟩ := Nat.exists_eq_add_of_le (Nat.le_of_not_lt h1)
    rw [getElem?_append_at ht, Nat.add_sub_cancel_left]
    split
    · next h2 => rw [List.getElem?_append_left (hn ▸ Nat.lt_of_add_lt_add_left h2)]
    · next h2 =>
      obtain ⟨i, rfl⟩ := Nat.exists_eq_add_of_le (Nat.le_of_not_lt fun h => h2 (Nat.add_lt_add_left h off))
      rw [getElem?_append_at hn, List.getElem?_drop, hn, Nat.add_assoc]

theorem getElem?_patch (b : Bytes) (off : Nat) (bs : Bytes) (j : Nat) (h : off + bs.length ≤ b.length) :
    (patch b off bs)[j]? = if j < off then b[j]? else if j < off + bs.length then bs[j - off]? else b[j]? :=
  getElem?_patch_of rfl rfl h j

/-- the frame of a patch, with the window excluded in the words of the preservation statements -/
theorem getElem?_patch_outside {b bs : Bytes} {off n L j : Nat} (hl : b.length = L) (hn : bs.length = n) (h : off + n ≤ L)
    (ho : ¬ (off ≤ j ∧ j < off + n)) : (patch b off bs)[j]? = b[j]? := by
  rw [getElem?_patch_of hl hn h]
  split
  · rfl
  · next h1 => rw [if_neg fun h2 => ho ⟨Nat.le_of_not_lt h1, h2⟩]

/-! A byte `j` outside a window `[a, e)`, in the three ways in which that is known. -/

theorem outside_lt {a e j : Nat} (h : j < a) : ¬ (a ≤ j ∧ j < e) := fun h' => Nat.not_le.2 h h'.1

theorem outside_ge {a e j : Nat} (h : e ≤ j) : ¬ (a ≤ j ∧ j < e) := fun h' => Nat.not_le.2 h'.2 h

theorem outside_sub {a e a' e' j : Nat} (h : ¬ (a ≤ j ∧ j < e)) (h1 : a ≤ a') (h2 : e' ≤ e) : ¬ (a' ≤ j ∧ j < e') :=
  fun h' => h ⟨Nat.le_trans h1 h'.1, Nat.lt_of_lt_of_le h'.2 h2⟩

theorem slice_patch_inside {b bs : Bytes} {off n L : Nat} (hl : b.length = L) (hn : bs.length = n) (h : off + n ≤ L) (o m : Nat)
    (hi : o + m ≤ n) : slice (patch b off bs) (off + o) m = slice bs o m :=
  slice_congr _ _ _ _ _ fun i him => by
    have hlt : o + i < n := Nat.lt_of_lt_of_le (Nat.add_lt_add_left him o) hi
    rw [Nat.add_assoc, getElem?_patch_of hl hn h, if_neg (Nat.not_lt.2 (Nat.le_add_right _ _)), if_pos (Nat.add_lt_add_left hlt off),
      Nat.add_sub_cancel_left]

theorem slice_patch_same_of {b bs : Bytes} {off n L : Nat} (hl : b.length = L) (hn : bs.length = n) (h : off + n ≤ L) :
    slice (patch b off bs) off n = bs :=
  (slice_patch_inside hl hn h 0 n (Nat.le_of_eq (Nat.zero_add n))).trans (hn ▸ slice_full bs)

theorem slice_patch_same (b : Bytes) (off : Nat) (bs : Bytes) (h : off + bs.length ≤ b.length) :
    slice (patch b off bs) off bs.length = bs :=
  slice_patch_same_of rfl rfl h

theorem slice_patch_disjoint_of {b bs : Bytes} {off n L o m : Nat} (hl : b.length = L) (hn : bs.length = n) (h : off + n ≤ L)
    (hd : o + m ≤ off ∨ off + n ≤ o) : slice (patch b off bs) o m = slice b o m :=
  slice_congr _ _ _ _ _ fun i _ => getElem?_patch_outside hl hn h (by omega)

theorem slice_patch_disjoint (b : Bytes) (off : Nat) (bs : Bytes) (o n : Nat) (h : off + bs.length ≤ b.length)
    (hd : o + n ≤ off ∨ off + bs.length ≤ o) : slice (patch b off bs) o n = slice b o n :=
  slice_patch_disjoint_of rfl rfl h hd

theorem patch_append_left {x y bs : Bytes} {off n : Nat} (hn : bs.length = n) (h : off + n ≤ x.length) :
    patch (x ++ y) off bs = patch x off bs ++ y := by
  unfold patch
  rw [List.take_append_of_le_length (by omega), List.drop_append_of_le_length (by omega), List.append_assoc, List.append_assoc,
    List.append_assoc]

theorem take_append_drop_eq_patch {b bs : Bytes} {off n : Nat} (hn : bs.length = n) :
    b.take off ++ bs ++ b.drop (off + n) = patch b off bs := by
  unfold patch; rw [hn]

/-! ### `x.take a ++ ins ++ x.drop a`: what `Vec::splice(a..a, ins)` leaves -/

theorem length_splice {x ins : Bytes} {a n : Nat} (hn : ins.length = n) (h : a ≤ x.length) :
    (x.take a ++ ins ++ x.drop a).length = x.length + n := by
  rw [List.length_append, List.length_append, List.length_take, List.length_drop, hn, Nat.min_eq_left h, Nat.add_right_comm,
    Nat.add_sub_cancel' h]

theorem getElem?_splice_lt {x : Bytes} {a j : Nat} (ins : Bytes) (hj : j < a) (h : a ≤ x.length) :
    (x.take a ++ ins ++ x.drop a)[j]? = x[j]? := by
  rw [List.append_assoc, List.getElem?_append_left (by rw [List.length_take]; omega), List.getElem?_take, if_pos hj]

theorem getElem?_splice_ge {x ins : Bytes} {a j n : Nat} (hn : ins.length = n) (hj : a ≤ j) (h : a ≤ x.length) :
    (x.take a ++ ins ++ x.drop a)[j + n]? = x[j]? := by
  have hl : (x.take a ++ ins).length = a + n := by rw [List.length_append, List.length_take, Nat.min_eq_left h, hn]
  obtain ⟨k, rfl⟩ := Nat.exists_eq_add_of_le hj
  rw [Nat.add_right_comm, getElem?_append_at hl, List.getElem?_drop]

theorem slice_splice {x ins : Bytes} {a n : Nat} (hn : ins.length = n) (h : a ≤ x.length) :
    slice (x.take a ++ ins ++ x.drop a) a n = ins := by
  have hl : (x.take a).length = a := by rw [List.length_take, Nat.min_eq_left h]
  rw [slice_append_left (by rw [List.length_append, hl, hn]; exact Nat.le_refl _)]
  exact (slice_append_at hl ins 0 _).trans (hn ▸ slice_full ins)

theorem length_zeros (n : Nat) : (zeros n).length = n := List.length_replicate

theorem length_pad {y : Bytes} {n a : Nat} (hy : y.length = n) (h : n ≤ a) : (y ++ zeros (a - n)).length = a := by
  rw [List.length_append, length_zeros, hy, Nat.add_sub_cancel' h]

theorem length_leBytes (n v : Nat) : (leBytes n v).length = n := by
  induction n generalizing v with
  | zero => rfl
  | succ k ih => simp [leBytes, ih]

theorem leVal_leBytes (n v : Nat) (h : v < 256 ^ n) : leVal (leBytes n v) = v := by
  induction n generalizing v with
  | zero => simp at h; subst h; rfl
  | succ k ih =>
    have hk : v / 256 < 256 ^ k := by
      rw [Nat.pow_succ] at h
      exact Nat.div_lt_of_lt_mul (by rw [Nat.mul_comm]; exact h)
    simp only [leBytes, leVal, ih _ hk, UInt8.toNat_ofNat']
    omega

theorem leVal_lt (l : Bytes) : leVal l < 256 ^ l.length := by
  induction l with
  | nil => simp [leVal]
  | cons c cs ih =>
    simp only [leVal, List.length_cons, Nat.pow_succ]
    have := c.toNat_lt
    omega

theorem leVal_slice_lt (b : Bytes) (o n : Nat) : leVal (slice b o n) < 256 ^ n :=
  Nat.lt_of_lt_of_le (leVal_lt _) (Nat.pow_le_pow_right (by decide) (length_slice_le b o n))

theorem leVal_slice_patch {b : Bytes} {off n L v : Nat} (hl : b.length = L) (h : off + n ≤ L) (hv : v < 256 ^ n) :
    leVal (slice (patch b off (leBytes n v)) off n) = v := by
  rw [slice_patch_same_of hl (length_leBytes n v) h, leVal_leBytes n v hv]

/-! ### The steps of `R`.  Each says what a step that succeeds returns; the `_bind` forms, `add_le` and `readAt` take the step
together with the rest of the run (`x >>= f`), the others are followed by `bind_ok`.  `below` and `within` build the bounds they
take.  A run is stepped through by `rewrite`, a stanza for each line or two of the model: `rw` would try `rfl` on the rest of the
program after every stanza. -/

theorem bind_ok {α β : Type} (a : α) (f : α → R β) : (Bind.bind (R.ok a) f : R β) = f a := rfl

variable {β : Type}

/-- an offset `a + k` inside a region `[a, a + k')` that ends in front of `e` -/
theorem below {a k k' e : Nat} (h : a + k' ≤ e) (hk : k ≤ k') : a + k ≤ e :=
  Nat.le_trans (Nat.add_le_add_left hk a) h

/-- an access `[a + c, a + c + n)` inside a region `[a, a + k')` that ends in front of `e` -/
theorem within {a c n k' e : Nat} (h : a + k' ≤ e) (hk : c + n ≤ k') : a + c + n ≤ e :=
  Nat.add_assoc a c n ▸ below h hk

theorem add_ok {w a c : Nat} (h : a + c < w) : add w a c = .ok (a + c) := if_pos h

theorem add_bind {w a c : Nat} (h : a + c < w) (f : Nat → R β) : (add w a c >>= f) = f (a + c) := by
  rw [add_ok h]; rfl

/-- an offset inside a region that is itself addressable: the width is passed as a term and stays out of `omega`'s sight -/
theorem add_le {w a c e : Nat} (h : a + c ≤ e) (he : e < w) (f : Nat → R β) : (add w a c >>= f) = f (a + c) :=
  add_bind (Nat.lt_of_le_of_lt h he) f

theorem sub_ok {a c : Nat} (h : c ≤ a) : sub a c = .ok (a - c) := if_pos h

theorem mul_ok {w a c : Nat} (h : a * c < w) : mul w a c = .ok (a * c) := if_pos h

theorem splitOff_ok {b : Bytes} {a : Nat} (h : a ≤ b.length) : splitOff b a = .ok (b.take a, b.drop a) := if_pos h

theorem spliceAt_ok {b ins : Bytes} {a : Nat} (h : a ≤ b.length) : spliceAt b a ins = .ok (b.take a ++ ins ++ b.drop a) :=
  if_pos h

theorem readField_eq (b : Bytes) (off size : Nat) (h : off + size ≤ b.length) (hw : off + size < U64) :
    readField b off size = .ok (leVal (slice b off size)) := by
  unfold readField
  rw [add_ok hw, bind_ok, if_pos h]
  rfl

theorem writeField_eq (b : Bytes) (off size v : Nat) (h : off + size ≤ b.length) (hw : off + size < U64) :
    writeField b off size v = .ok (patch b off (leBytes size v)) := by
  unfold writeField
  rw [add_ok hw, bind_ok, if_pos h, take_append_drop_eq_patch (length_leBytes size v)]

/-- `read_field` inside a region `[0, e)` of a vector shorter than 2^64; `hv` names the value (`rfl` where it is a definition of
`ExeValid`) -/
theorem readField_val {b : Bytes} {off size e v : Nat} (h : off + size ≤ e) (he : e ≤ b.length) (hU : b.length < U64)
    (hv : leVal (slice b off size) = v) : readField b off size = .ok v :=
  hv ▸ readField_eq b off size (Nat.le_trans h he) (Nat.lt_of_le_of_lt (Nat.le_trans h he) hU)

theorem readField_bind {b : Bytes} {off size e v : Nat} (h : off + size ≤ e) (he : e ≤ b.length) (hU : b.length < U64)
    (hv : leVal (slice b off size) = v) (f : Nat → R β) : (readField b off size >>= f) = f v := by
  rw [readField_val h he hU hv]; rfl

theorem readAt {b : Bytes} {a c n e v : Nat} (h : a + c + n ≤ e) (he : e ≤ b.length) (hU : b.length < U64)
    (hv : leVal (slice b (a + c) n) = v) (f : Nat → Nat → R β) :
    (add U64 a c >>= fun o => readField b o n >>= f o) = f (a + c) v := by
  rw [add_le (Nat.le_trans (Nat.le_add_right _ n) (Nat.le_trans h he)) hU, readField_bind h he hU hv]

theorem writeField_ok {b : Bytes} {off size L v : Nat} (hl : b.length = L) (h : off + size ≤ L) (hU : L < U64) :
    writeField b off size v = .ok (patch b off (leBytes size v)) :=
  writeField_eq b off size v (hl ▸ h) (Nat.lt_of_le_of_lt h hU)

theorem writeField_bind {b : Bytes} {off size L v : Nat} (hl : b.length = L) (h : off + size ≤ L) (hU : L < U64)
    (f : Bytes → R β) : (writeField b off size v >>= f) = f (patch b off (leBytes size v)) := by
  rw [writeField_ok hl h hU]; rfl

theorem alignUp_bounds {x m : Nat} (hx : 1 ≤ x) (hm : 1 ≤ m) : x ≤ alignUp x m ∧ alignUp x m < x + m := by
  unfold alignUp
  have h1 := Nat.div_add_mod (x - 1) m
  have h2 := Nat.mod_lt (x - 1) hm
  have h3 : ((x - 1) / m + 1) * m = m * ((x - 1) / m) + m := by rw [Nat.add_mul, Nat.one_mul, Nat.mul_comm]
  rw [h3]
  omega

theorem align_eq (w x m : Nat) (hx : 1 ≤ x) (hm : 1 ≤ m) (hw : x + m < w) : align w x m = .ok (alignUp x m) := by
  have hb := alignUp_bounds hx hm
  have hq : (x - 1) / m + 1 ≤ alignUp x m := Nat.le_mul_of_pos_right _ hm
  unfold align
  rw [sub_ok hx, bind_ok, div, if_neg (by omega), bind_ok, add_ok (by omega), bind_ok, mul_ok (Nat.lt_trans hb.2 hw)]
  rfl

theorem readStringLoop_step (b : Bytes) (off max k size : Nat) :
    readStringLoop b off max (k + 1) size =
      if off + size < U64 then
        match b[off + size]? with
        | none => .err
        | some c => if c = 0 then .ok size else if size + 1 ≥ max then .ok (size + 1)
                    else readStringLoop b off max k (size + 1)
      else .panic := by
  by_cases hlt : off + size < U64
  · simp only [readStringLoop, add, hlt, ↓reduceIte, Bind.bind, R.bind]
    cases b[off + size]? <;> rfl
  · simp only [readStringLoop, add, hlt, ↓reduceIte, Bind.bind, R.bind]

theorem readStringLoop_bounds (b : Bytes) (off max : Nat) : ∀ (fuel size r : Nat),
    readStringLoop b off max fuel size = .ok r → size ≤ r ∧ (size < max → r ≤ max) := by
  intro fuel
  induction fuel with
  | zero => intro size r h; cases h; exact ⟨Nat.le_refl _, Nat.le_of_lt⟩
  | succ k ih =>
    intro size r h
    rw [readStringLoop_step] at h
    split at h
    · split at h
      · cases h
      · split at h
        · cases h; exact ⟨Nat.le_refl _, Nat.le_of_lt⟩
        · split at h
          · cases h; exact ⟨Nat.le_succ _, id⟩
          · next hm => exact ⟨Nat.le_of_succ_le (ih _ r h).1, fun _ => (ih _ r h).2 (Nat.lt_of_not_le hm)⟩
    · cases h

/-- `read_string` depends only on the bytes it looks at -/
theorem readStringLoop_congr (b b' : Bytes) (off max : Nat) (fuel size r : Nat)
    (h : readStringLoop b off max fuel size = .ok r)
    (hb : ∀ i, i ≤ r → b'[off + i]? = b[off + i]?) :
    readStringLoop b' off max fuel size = .ok r := by
  induction fuel generalizing size with
  | zero => simpa [readStringLoop] using h
  | succ k ih =>
    have hge := (readStringLoop_bounds b off max _ size r h).1
    rw [readStringLoop_step] at h ⊢
    rw [hb size hge]
    split at h
    · next hlt =>
      rw [if_pos hlt]
      split at h
      · cases h
      · split at h
        · next hz => rw [if_pos hz]; exact h
        · next hz =>
          rw [if_neg hz]
          split at h
          · next hm => rw [if_pos hm]; exact h
          · next hm => rw [if_neg hm]; exact ih (size + 1) h
    · cases h

theorem readString_eq (b : Bytes) (off max r : Nat) (h : readStringLoop b off max (max + 1) 0 = .ok r) :
    readString b off max = .ok (slice b off r) := by
  unfold readString
  rw [h]
  rfl

/-- `read_string` on bytes that are known: it stops at the NUL behind `name`, or after `max` bytes if `name` fills them -/
theorem readStringLoop_stops (b name : Bytes) (off max : Nat) (h0 : ∀ c, c ∈ name → c ≠ 0) (hmax : name.length ≤ max)
    (hU : off + name.length < U64) (hb : ∀ i, i < name.length → b[off + i]? = name[i]?)
    (hend : name.length < max → b[off + name.length]? = some 0) :
    ∀ fuel size, size ≤ name.length → size < max → name.length ≤ size + fuel → (name.length < max → name.length < size + fuel) →
      readStringLoop b off max fuel size = .ok name.length := by
  intro fuel
  induction fuel with
  | zero => exact fun size h1 h2 h3 h4 => by omega
  | succ k ih =>
    intro size h1 h2 h3 h4
    rw [readStringLoop_step, if_pos (Nat.lt_of_le_of_lt (Nat.add_le_add_left h1 _) hU)]
    rcases Nat.eq_or_lt_of_le h1 with rfl | hlt
    · rw [hend h2]; rfl
    · rw [hb size hlt, List.getElem?_eq_getElem hlt]
      simp only
      rw [if_neg (h0 _ (List.getElem_mem hlt))]
      split
      · next hm => exact congrArg R.ok (Nat.le_antisymm hlt (Nat.le_trans hmax hm))
      · next hm => exact ih (size + 1) hlt (Nat.lt_of_not_le hm) (Nat.add_right_comm .. ▸ h3) fun h => Nat.add_right_comm .. ▸ h4 h

theorem readStringLoop_name (b name : Bytes) (off max : Nat) (h0 : ∀ c, c ∈ name → c ≠ 0) (hmax : name.length < max)
    (hU : off + name.length < U64)
    (hb : ∀ i, i < name.length + 1 → b[off + i]? = (name ++ [0])[i]?) :
    ∀ fuel size, size ≤ name.length → name.length + 1 ≤ size + fuel → readStringLoop b off max fuel size = .ok name.length :=
  fun fuel size h1 h2 => readStringLoop_stops b name off max h0 (Nat.le_of_lt hmax) hU
    (fun i hi => (hb i (Nat.lt_succ_of_lt hi)).trans (List.getElem?_append_left hi))
    (fun _ => (hb _ (Nat.lt_succ_self _)).trans List.getElem?_concat_length) fuel size h1 (Nat.lt_of_le_of_lt h1 hmax)
    (Nat.le_of_succ_le h2) (fun _ => h2)

/-- a name that fills the whole field (no terminator): `read_string` stops at the field's width -/
theorem readStringLoop_full (b name : Bytes) (off : Nat) (h0 : ∀ c, c ∈ name → c ≠ 0) (hne : 1 ≤ name.length)
    (hU : off + name.length < U64) (hb : ∀ i, i < name.length → b[off + i]? = name[i]?) :
    ∀ fuel size, size < name.length → name.length ≤ size + fuel → readStringLoop b off name.length fuel size = .ok name.length :=
  fun fuel size h1 h2 => readStringLoop_stops b name off _ h0 (Nat.le_refl _) hU hb (fun h => absurd h (Nat.lt_irrefl _)) fuel size
    (Nat.le_of_lt h1) h1 h2 (fun h => absurd h (Nat.lt_irrefl _))

/-- a field of `w` bytes that holds `name` and then, if `name` is shorter than `max`, a NUL reads back as `name`: the ELF names
(`rest = [0]`, `max` = 32) and the 8-byte name field of a PE section header (`rest` the zero padding, `max` = 8) -/
theorem readString_field {o name rest : Bytes} {a max w : Nat} (h0 : ∀ c, c ∈ name → c ≠ 0) (hmax : name.length ≤ max)
    (hpos : 0 < max) (hU : a + name.length < U64) (hs : slice o a w = name ++ rest)
    (hrest : name.length < max → rest[0]? = some 0) :
    readStringLoop o a max (max + 1) 0 = .ok name.length ∧ slice o a name.length = name := by
  have hw : name.length + rest.length ≤ w := List.length_append ▸ hs ▸ length_slice_le o a w
  refine ⟨readStringLoop_stops o name a max h0 hmax hU (fun i hi => ?_) (fun h => ?_) _ 0 (Nat.zero_le _) hpos (by omega)
    (fun _ => by omega), slice_prefix hs⟩
  · rw [getElem?_of_slice hs (by omega), List.getElem?_append_left hi]
  · have hr := hrest h
    have := (List.getElem?_eq_some_iff.1 hr).1
    rw [getElem?_of_slice hs (by omega), List.getElem?_append_right (Nat.le_refl _), Nat.sub_self, hr]

theorem mul_succ_le {i n : Nat} (h : i < n) (es : Nat) : i * es + es ≤ n * es := by
  rw [← Nat.succ_mul]; exact Nat.mul_le_mul_right es h

/-- two entries of a table are the same or do not overlap (said with the products, for `omega`) -/
theorem entries_apart (i j es : Nat) : i * es + es ≤ j * es ∨ i = j ∧ i * es = j * es ∨ j * es + es ≤ i * es := by
  rcases Nat.lt_trichotomy i j with h | h | h
  · exact .inl (mul_succ_le h es)
  · exact .inr (.inl ⟨h, h ▸ rfl⟩)
  · exact .inr (.inr (mul_succ_le h es))

/-- A loop `F` over the entries `start, start + 1, ..` of a table that adds `d` to the `w`-byte field at `pos i` of every entry
`i` whose old value meets `c i` (`shiftOffsets`, `bumpPointers`): it succeeds, keeps the length, changes those fields as said
and nothing else.  `hstep` is one turn of the loop; `hpos` says that the fields of different entries do not overlap. -/
theorem fieldLoop_spec (F : Bytes → Nat → Nat → R Bytes) (pos : Nat → Nat) (w d W : Nat) (c : Nat → Nat → Prop)
    [∀ i x, Decidable (c i x)] (hW : W ≤ 256 ^ w) (hpos : ∀ i j, i < j → pos i + w ≤ pos j) (h0 : ∀ t i, F t 0 i = .ok t)
    (hstep : ∀ t n i, pos i + w ≤ t.length → t.length < U64 → leVal (slice t (pos i) w) + d < W →
      F t (n + 1) i = F (if c i (leVal (slice t (pos i) w)) then patch t (pos i) (leBytes w (leVal (slice t (pos i) w) + d)) else t)
        n (i + 1))
    (n : Nat) : ∀ (t : Bytes) (start : Nat), t.length < U64 →
    (∀ idx, start ≤ idx → idx < start + n → pos idx + w ≤ t.length ∧ leVal (slice t (pos idx) w) + d < W) →
    ∃ t', F t n start = .ok t' ∧ t'.length = t.length ∧
      (∀ j, (∀ idx, start ≤ idx → idx < start + n → c idx (leVal (slice t (pos idx) w)) → ¬ (pos idx ≤ j ∧ j < pos idx + w)) →
        t'[j]? = t[j]?) ∧
      (∀ idx, start ≤ idx → idx < start + n → leVal (slice t' (pos idx) w) =
        if c idx (leVal (slice t (pos idx) w)) then leVal (slice t (pos idx) w) + d else leVal (slice t (pos idx) w)) := by
  induction n with
  | zero => exact fun t start _ _ => ⟨t, h0 t start, rfl, fun _ _ => rfl, fun idx h1 h2 => absurd h2 (Nat.not_lt.2 h1)⟩
  | succ n ih =>
    intro t start hU hin
    obtain ⟨hw, hv⟩ := hin start (Nat.le_refl _) (Nat.lt_add_of_pos_right n.succ_pos)
    have hb := length_leBytes w (leVal (slice t (pos start) w) + d)
    -- the table after this turn: same length, same bytes outside the field of `start`
    obtain ⟨t1, ht1⟩ : ∃ t1, (if c start (leVal (slice t (pos start) w)) then
        patch t (pos start) (leBytes w (leVal (slice t (pos start) w) + d)) else t) = t1 := ⟨_, rfl⟩
    have hl1 : t1.length = t.length := by
      rw [← ht1]; split
      · exact length_patch_of rfl hb hw
      · rfl
    have hf1 : ∀ j, (c start (leVal (slice t (pos start) w)) → ¬ (pos start ≤ j ∧ j < pos start + w)) → t1[j]? = t[j]? := by
      intro j hj
      rw [← ht1]; split
      · next hc => exact getElem?_patch_outside rfl hb hw (hj hc)
      · rfl
    have hother : ∀ idx, start + 1 ≤ idx → slice t1 (pos idx) w = slice t (pos idx) w := fun idx h1 =>
      slice_congr _ _ _ _ _ fun k hk => hf1 _ fun _ => by have := hpos start idx h1; omega
    have hlt : ∀ {idx}, idx < start + 1 + n → idx < start + (n + 1) := fun h => Nat.add_right_comm start 1 n ▸ h
    obtain ⟨t', he, hl', hfr, hval⟩ := ih t1 (start + 1) (hl1 ▸ hU) fun idx h1 h2 => by
      rw [hl1, hother idx h1]; exact hin idx (Nat.le_of_succ_le h1) (hlt h2)
    refine ⟨t', ?_, hl'.trans hl1, fun j hj => ?_, fun idx h1 h2 => ?_⟩
    · rw [hstep t n start hw hU hv, ht1]; exact he
    · rw [hfr j fun idx h1 h2 h3 => hj idx (Nat.le_of_succ_le h1) (hlt h2) (hother idx h1 ▸ h3)]
      exact hf1 j (hj start (Nat.le_refl _) (Nat.lt_add_of_pos_right n.succ_pos))
    · rcases Nat.eq_or_lt_of_le h1 with rfl | h1
      · -- the later turns leave this window alone
        rw [slice_congr t' t1 _ _ w fun i hi => hfr _ fun idx' h1' _ _ => by have := hpos start idx' h1'; omega, ← ht1]
        split
        · exact leVal_slice_patch rfl hw (Nat.lt_of_lt_of_le hv hW)
        · rfl
      · rw [hval idx h1 (Nat.add_right_comm start 1 n ▸ h2), hother idx h1]

end Rj.Exe
