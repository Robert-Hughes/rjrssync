import RjModel.Model.Boss
/-! What the loops of the execution phase append to the two command traces, the log and the statistics:
one statement per loop (`deleteLoop_spec`, `chunkLoop_spec`, `copyOne_spec`, `copyLoop_spec`), from which the
trace, prediction, summary and classification properties are read off. -/
namespace Rj

def XState.ext (x : XState) (S D : List Cmd) (G : List String) (n : Nat) : XState :=
  ⟨x.src ++ S, x.dest ++ D, x.log ++ G, x.polls + n⟩

theorem XState.ext_ext (x : XState) (S D G n S' D' G' n') :
    (x.ext S D G n).ext S' D' G' n' = x.ext (S ++ S') (D ++ D') (G ++ G') (n + n') := by
  simp [XState.ext, Nat.add_assoc]

theorem XState.sendSrc_eq (x : XState) (c : Cmd) : x.sendSrc c = x.ext [c] [] [] 0 := by simp [XState.ext, XState.sendSrc]

theorem XState.sendDest_eq (x : XState) (c : Cmd) : x.sendDest c = x.ext [] [c] [] 0 := by simp [XState.ext, XState.sendDest]

theorem XState.info_eq (x : XState) (l : String) : x.info l = x.ext [] [] [l] 0 := by simp [XState.ext, XState.info]

theorem XState.poll_eq (x : XState) (e : Option Nat) : (x.poll e).2 = x.ext [] [] [] 1 := by simp [XState.ext, XState.poll]

/-- what a real run sends where a dry run sends nothing -/
def Ctx.real {α : Type} (c : Ctx) (l : List α) : List α := if c.dryRun then [] else l

theorem Ctx.mem_real {α : Type} {c : Ctx} {l : List α} {a : α} : a ∈ c.real l ↔ c.dryRun = false ∧ a ∈ l := by
  unfold Ctx.real; cases c.dryRun <;> simp

theorem Ctx.real_eq {α : Type} {c : Ctx} (h : c.dryRun = false) (l : List α) : c.real l = l := by
  simp [Ctx.real, h]

theorem Ctx.real_append {α : Type} (c : Ctx) (l l' : List α) : c.real (l ++ l') = c.real l ++ c.real l' := by
  unfold Ctx.real; cases c.dryRun <;> simp

/-- the errors of the consent logic: a behaviour resolved to `error`, or a prompt was cancelled or could not be shown -/
def ErrKind.isConsent : ErrKind → Bool
  | .rootErr | .entryErr | .newerErr | .olderErr | .sameErr => true
  | _ => false

def Outcome.isConsentErr : Outcome → Bool
  | .err k => k.isConsent
  | _ => false

def Stats.afterDeletes (st : Stats) (l : List (String × (Details × DelReason))) : Stats :=
  l.foldl (fun s it => s.addDelete it.2.1) st

def XState.afterDeletes (c : Ctx) (x : XState) (l : List (String × (Details × DelReason))) : XState :=
  x.ext [] (c.real (l.map fun it => deleteCmd it.1 it.2.1))
    (if c.dryRun then l.map fun it => s!"Would delete {c.prettyDest it.1 (kindName it.2.1)}" else []) l.length

theorem XState.afterDeletes_nil (c : Ctx) (x : XState) : x.afterDeletes c [] = x := by
  simp [XState.afterDeletes, XState.ext, Ctx.real]

theorem XState.afterDeletes_append (c : Ctx) (x : XState) (l l' : List (String × (Details × DelReason))) :
    (x.afterDeletes c l).afterDeletes c l' = x.afterDeletes c (l ++ l') := by
  unfold XState.afterDeletes Ctx.real
  rw [XState.ext_ext]
  cases c.dryRun <;> simp

theorem delStep_eq (c : Ctx) (errAt : Option Nat) (x : XState) (it : String × (Details × DelReason)) :
    ((delStepState c x it.1 it.2.1).poll errAt).2 = x.afterDeletes c [it] := by
  unfold delStepState XState.afterDeletes Ctx.real
  cases c.dryRun <;> simp [XState.ext, XState.poll, XState.sendDest, XState.info]

/-- The delete loop goes through a prefix `l₁` of the plan: all of it, or up to and including the deletion
after which a poll saw the destination's error. -/
theorem deleteLoop_spec (c : Ctx) (errAt : Option Nat) (l : List (String × (Details × DelReason)))
    (x : XState) (st : Stats) :
    ∃ l₁ l₂ e, l = l₁ ++ l₂ ∧ deleteLoop c errAt l x st = (e, x.afterDeletes c l₁, st.afterDeletes l₁) ∧
      (e = none ∧ l₂ = [] ∨ e = some .doer ∧ errAt ≠ none) := by
  induction l generalizing x st with
  | nil => exact ⟨[], [], none, rfl, by rw [XState.afterDeletes_nil]; rfl, .inl ⟨rfl, rfl⟩⟩
  | cons it rest ih =>
    simp only [deleteLoop]
    by_cases hp : ((delStepState c x it.1 it.2.1).poll errAt).1 = true
    · rw [if_pos hp, delStep_eq]
      exact ⟨[it], rest, _, rfl, rfl, .inr ⟨rfl, fun h => by simp [XState.poll, h] at hp⟩⟩
    · rw [if_neg hp, delStep_eq]
      obtain ⟨l₁, l₂, e, rfl, h2, he⟩ := ih (x.afterDeletes c [it]) (st.addDelete it.2.1)
      exact ⟨it :: l₁, l₂, e, rfl, by rw [h2, XState.afterDeletes_append]; rfl, he⟩

theorem deleteLoop_done {c : Ctx} {errAt : Option Nat} {l : List (String × (Details × DelReason))} {x : XState}
    {st : Stats} (h : (deleteLoop c errAt l x st).1 = none) :
    deleteLoop c errAt l x st = (none, x.afterDeletes c l, st.afterDeletes l) := by
  obtain ⟨l₁, l₂, e, rfl, h2, ⟨rfl, rfl⟩ | ⟨rfl, -⟩⟩ := deleteLoop_spec c errAt l x st
  · simpa using h2
  · rw [h2] at h; cases h

theorem deleteLoop_none (c : Ctx) (l : List (String × (Details × DelReason))) (x : XState) (st : Stats) :
    deleteLoop c none l x st = (none, x.afterDeletes c l, st.afterDeletes l) := by
  obtain ⟨l₁, l₂, e, rfl, h2, ⟨rfl, rfl⟩ | ⟨-, h⟩⟩ := deleteLoop_spec c none l x st
  · simpa using h2
  · exact absurd rfl h

-- `C11.consumed`, `C11.terminated`, `C11.total` and `C01.copyCmds` are the vocabulary of `Props/C11.lean` and `Props/C01.lean`;
-- they are defined here because `chunkLoop_spec` and `copyOne_spec` are stated in them.

/-- the chunks of a script the boss consumes: up to and including the first `more = false` -/
def C11.consumed : FileScript → FileScript
  | [] => []
  | (d, more) :: rest => if more then (d, more) :: consumed rest else [(d, more)]

def C11.terminated : FileScript → Bool
  | [] => false
  | (_, more) :: rest => if more then terminated rest else true

def C11.total (s : FileScript) : Nat := (s.map (·.1.length)).sum

theorem chunkLoop_spec (errAt : Option Nat) (p : String) (size : Nat) (mtime : Int) (s : FileScript) (x : XState) (off : Nat) :
    ∃ s₁ e, chunkLoop errAt p size mtime s x off =
        (e, x.ext [] (s₁.map fun ch => chunkCmd p ch.1 mtime ch.2) [] s₁.length, off + C11.total s₁) ∧
      (e = none ∧ C11.terminated s = true ∧ s₁ = C11.consumed s ∨ ∃ k, e = some k ∧ k.isConsent = false) := by
  induction s generalizing x off with
  | nil => exact ⟨[], some .unexpected, by simp [chunkLoop, XState.ext, C11.total], .inr ⟨_, rfl, rfl⟩⟩
  | cons ch rest ih =>
    obtain ⟨d, more⟩ := ch
    simp only [chunkLoop]
    by_cases hov : off + d.length > size
    · rw [if_pos hov]
      exact ⟨[], some .sizeChanged, by simp [XState.ext, C11.total], .inr ⟨_, rfl, rfl⟩⟩
    rw [if_neg hov]
    by_cases hp : ((x.sendDest (chunkCmd p d mtime more)).poll errAt).1 = true
    · rw [if_pos hp]
      exact ⟨[(d, more)], some .doer, by simp [XState.ext, XState.sendDest, XState.poll, C11.total], .inr ⟨_, rfl, rfl⟩⟩
    rw [if_neg hp]
    cases more with
    | false =>
      exact ⟨[(d, false)], none, by simp [XState.ext, XState.sendDest, XState.poll, C11.total],
        .inl ⟨rfl, by simp [C11.terminated], by simp [C11.consumed]⟩⟩
    | true =>
      obtain ⟨s₁, e, h2, he⟩ := ih ((x.sendDest (chunkCmd p d mtime true)).poll errAt).2 (off + d.length)
      refine ⟨(d, true) :: s₁, e, ?_, by simpa [C11.terminated, C11.consumed] using he⟩
      simp only [↓reduceIte, h2]
      simp [XState.ext, XState.sendDest, XState.poll, C11.total, Nat.add_assoc, Nat.add_comm 1]

def C01.copyCmds (files : List (String × FileScript)) (p : String) : Details → List Cmd
  | .file mtime _ => (C11.consumed (fileScript files p)).map fun ch => chunkCmd p ch.1 mtime ch.2
  | .folder => [.createFolder p]
  | .symlink k t => [.createSymlink p k t]

def fetchCmds (p : String) : Details → List Cmd
  | .file .. => [.getFileContent p]
  | _ => []

def Stats.addCopy (st : Stats) : Details → Stats
  | .file _ size => { st with filesCopied := st.filesCopied + 1, bytesCopied := st.bytesCopied + size }
  | .folder => { st with foldersCreated := st.foldersCreated + 1 }
  | .symlink .. => { st with linksCopied := st.linksCopied + 1 }

/-- **One entry of the copy loop.**  It succeeds - one log line in a dry run; otherwise the entry's fetch and creation
commands, for a file only if the source's stream ends and totals the listed size - or it is a real run, the entry is a
file, and some of its chunks were forwarded before a non-consent error. -/
theorem copyOne_spec (c : Ctx) (errAt : Option Nat) (files : List (String × FileScript)) (p : String) (d : Details)
    (x : XState) (st : Stats) :
    (∃ G n, copyOne c errAt files p d x st =
        (none, x.ext (c.real (fetchCmds p d)) (c.real (C01.copyCmds files p d)) G n, st.addCopy d) ∧
        G.length = (if c.dryRun then 1 else 0) ∧
        (c.dryRun = false → ∀ m sz, d = .file m sz →
          C11.terminated (fileScript files p) = true ∧ C11.total (C11.consumed (fileScript files p)) = sz)) ∨
    (c.dryRun = false ∧ ∃ e m sz, ∃ s₁ : FileScript, d = .file m sz ∧ e.isConsent = false ∧
      copyOne c errAt files p d x st =
        (some e, x.ext [.getFileContent p] (s₁.map fun ch => chunkCmd p ch.1 m ch.2) [] s₁.length, st)) := by
  unfold Ctx.real
  cases hd : c.dryRun with
  | true =>
    left
    cases d <;> simp only [copyOne, hd, ↓reduceIte, XState.info_eq] <;> exact ⟨_, 0, rfl, rfl, fun h => by cases h⟩
  | false =>
    cases d with
    | folder | symlink =>
      simp only [copyOne, hd, Bool.false_eq_true, ↓reduceIte, XState.sendDest_eq]
      exact .inl ⟨[], 0, rfl, rfl, fun _ _ _ h => by cases h⟩
    | file mtime size =>
      obtain ⟨s₁, e, h2, he⟩ := chunkLoop_spec errAt p size mtime (fileScript files p) (x.sendSrc (.getFileContent p)) 0
      simp only [copyOne, hd, Bool.false_eq_true, ↓reduceIte, copyFileReal, h2]
      simp only [XState.sendSrc_eq, XState.ext_ext, List.append_nil, List.nil_append, Nat.zero_add]
      obtain ⟨rfl, ht, rfl⟩ | ⟨e', rfl, he'⟩ := he
      · by_cases hsz : C11.total (C11.consumed (fileScript files p)) = size
        · subst hsz
          simp only [ne_eq, not_true_eq_false, ↓reduceIte]
          exact .inl ⟨[], _, rfl, rfl, fun _ m sz h => by cases h; exact ⟨ht, rfl⟩⟩
        · simp only [hsz, ne_eq, not_false_eq_true, ↓reduceIte]
          exact .inr ⟨trivial, _, _, _, _, rfl, rfl, rfl⟩
      · exact .inr ⟨trivial, _, _, _, _, rfl, he', rfl⟩

theorem fetchCmds_mem {p : String} {d : Details} {cmd : Cmd} (h : cmd ∈ fetchCmds p d) : cmd = .getFileContent p := by
  cases d <;> simp_all [fetchCmds]

theorem copyCmds_mutating {files : List (String × FileScript)} {p : String} {d : Details} {cmd : Cmd}
    (h : cmd ∈ C01.copyCmds files p d) : cmd.mutating = true := by
  cases d <;> simp only [C01.copyCmds, List.mem_map, List.mem_singleton] at h
  · obtain ⟨_, -, rfl⟩ := h; rfl
  · subst h; rfl
  · subst h; rfl

theorem copyLoop_spec (c : Ctx) (errAt : Option Nat) (files : List (String × FileScript))
    (l : List (String × (Details × CopyReason))) (x : XState) (st : Stats) :
    ∃ S D G n e st', copyLoop c errAt files l x st = (e, x.ext (c.real S) (c.real D) G n, st') ∧
      (∀ cmd ∈ S, ∃ p, cmd = .getFileContent p) ∧ (∀ cmd ∈ D, cmd.mutating = true) ∧
      (∀ k, e = some k → k.isConsent = false) ∧
      (e = none → D = l.flatMap fun it => C01.copyCmds files it.1 it.2.1) := by
  induction l generalizing x st with
  | nil => exact ⟨[], [], [], 0, none, st, by simp [copyLoop, XState.ext, Ctx.real], by simp, by simp, by simp, fun _ => rfl⟩
  | cons it rest ih =>
    obtain ⟨p, d, r⟩ := it
    simp only [copyLoop]
    obtain ⟨G, n, h1, -, -⟩ | ⟨hd, e, m, sz, s₁, rfl, he, h1⟩ := copyOne_spec c errAt files p d x st
    · -- the entry went through: its commands, then those of the rest
      rw [h1]; simp only
      by_cases hq : ((x.ext (c.real (fetchCmds p d)) (c.real (C01.copyCmds files p d)) G n).poll errAt).1 = true
      · simp only [if_pos hq, XState.poll_eq, XState.ext_ext, List.append_nil]
        exact ⟨fetchCmds p d, C01.copyCmds files p d, _, _, _, _, rfl, fun _ h => ⟨_, fetchCmds_mem h⟩,
          fun _ h => copyCmds_mutating h, fun _ h => by cases h; rfl, fun h => by cases h⟩
      · simp only [if_neg hq, XState.poll_eq, XState.ext_ext, List.append_nil]
        obtain ⟨S', D', G', n', e', st', h2, hS', hD', he', hok⟩ := ih (x.ext _ _ G (n + 1)) (st.addCopy d)
        refine ⟨fetchCmds p d ++ S', C01.copyCmds files p d ++ D', G ++ G', n + 1 + n', e', st', ?_, ?_, ?_, he',
          fun h => by rw [hok h]; rfl⟩
        · rw [h2, XState.ext_ext, Ctx.real_append, Ctx.real_append]
        · exact fun cmd h => (List.mem_append.mp h).elim (fun h => ⟨_, fetchCmds_mem h⟩) (hS' cmd)
        · exact fun cmd h => (List.mem_append.mp h).elim copyCmds_mutating (hD' cmd)
    · rw [h1]
      refine ⟨[.getFileContent p], s₁.map fun ch => chunkCmd p ch.1 m ch.2, _, _, _, _,
        by rw [Ctx.real_eq hd, Ctx.real_eq hd], by simp, ?_, fun _ h => by cases h; exact he, fun h => by cases h⟩
      intro cmd h
      obtain ⟨_, -, rfl⟩ := List.mem_map.mp h
      rfl

end Rj
