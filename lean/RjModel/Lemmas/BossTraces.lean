import RjModel.Lemmas.BossLoops
/-! Every command the boss model emits, classified: `run` either stops during the preparation (roots, filters,
listings, confirmation) or hands over to the execution phase (`run_cases`); with what the execution phase appends
(`execPhase_ok`) this gives `run_ok`, from which the trace properties (C02, C05, C06) are corollaries, and `run_before`
(what has been sent when a consent error ends a run: C03, C07). -/
namespace Rj

def TrOK (PS PD : Cmd → Prop) (x : XState) : Prop := (∀ c ∈ x.src, PS c) ∧ (∀ c ∈ x.dest, PD c)

theorem TrOK.ext {PS PD : Cmd → Prop} {x : XState} (h : TrOK PS PD x) {S D : List Cmd} (G : List String) (n : Nat)
    (hS : ∀ c ∈ S, PS c) (hD : ∀ c ∈ D, PD c) : TrOK PS PD (x.ext S D G n) :=
  ⟨fun c hc => (List.mem_append.mp hc).elim (h.1 c) (hS c), fun c hc => (List.mem_append.mp hc).elim (h.2 c) (hD c)⟩

theorem TrOK.sendSrc {PS PD : Cmd → Prop} {x : XState} (h : TrOK PS PD x) (c : Cmd) (hc : PS c) : TrOK PS PD (x.sendSrc c) :=
  x.sendSrc_eq c ▸ h.ext [] 0 (by simpa using hc) (by simp)

theorem TrOK.sendDest {PS PD : Cmd → Prop} {x : XState} (h : TrOK PS PD x) (c : Cmd) (hc : PD c) : TrOK PS PD (x.sendDest c) :=
  x.sendDest_eq c ▸ h.ext [] 0 (by simp) (by simpa using hc)

theorem TrOK.mono {PS PD PS' PD' : Cmd → Prop} {x : XState} (h : TrOK PS PD x) (hS : ∀ c, PS c → PS' c) (hD : ∀ c, PD c → PD' c) :
    TrOK PS' PD' x :=
  ⟨fun c hc => hS c (h.1 c hc), fun c hc => hD c (h.2 c hc)⟩

structure Allowed (dry : Bool) (PS PD : Cmd → Prop) (F : List FilterSpec → Prop) : Prop where
  sSetRoot : ∀ r, PS (.setRoot r)
  sGetEntries : ∀ f, F f → PS (.getEntries f)
  sGetFile : dry = false → ∀ p, PS (.getFileContent p)
  dSetRoot : ∀ r, PD (.setRoot r)
  dGetEntries : ∀ f, F f → PD (.getEntries f)
  dMarker : ∀ ph, PD (.marker ph)
  dMutating : dry = false → ∀ c, c.mutating = true → PD c

theorem deleteCmd_mutating (p : String) (d : Details) : (deleteCmd p d).mutating = true := by
  cases d <;> rfl

def ResOK (PS PD : Cmd → Prop) (r : RunResult) : Prop := (∀ c ∈ r.srcTrace, PS c) ∧ (∀ c ∈ r.destTrace, PD c)

/-- **The execution phase**: what it sends is allowed; it shows no prompt, never ends with a consent error, and never
ends `ok` when a destination error is scripted. -/
theorem execPhase_ok {PS PD : Cmd → Prop} {F : List FilterSpec → Prop} (sc : Scenario) (ctx : Ctx) (A : Allowed ctx.dryRun PS PD F)
    (x : XState) (conf : Conf) (del : OMap (Details × DelReason)) (cpy : OMap (Details × CopyReason)) (h : TrOK PS PD x) :
    ResOK PS PD (execPhase sc ctx x conf del cpy) ∧ (execPhase sc ctx x conf del cpy).outcome.isConsentErr = false ∧
    (sc.errAtPoll.isSome → (execPhase sc ctx x conf del cpy).outcome ≠ .ok) ∧
    (execPhase sc ctx x conf del cpy).prompts = conf.prompts := by
  unfold execPhase
  obtain ⟨l₁, _, e1, _, h1, he1⟩ := deleteLoop_spec ctx sc.errAtPoll del.iter x {}
  rw [h1]
  have t1 : TrOK PS PD (x.afterDeletes ctx l₁) := h.ext _ _ (by simp) fun c hc => by
    obtain ⟨hd, hc⟩ := Ctx.mem_real.mp hc
    obtain ⟨it, -, rfl⟩ := List.mem_map.mp hc
    exact A.dMutating hd _ (deleteCmd_mutating _ _)
  obtain ⟨rfl, -⟩ | ⟨rfl, -⟩ := he1
  -- (`ResOK` of `mkResult o x' conf` unfolds to `TrOK` of `x'`)
  case inr => exact ⟨t1, rfl, by simp [mkResult], rfl⟩
  have t2 := t1.sendDest (.marker .copying) (A.dMarker _)
  simp only
  split
  · exact ⟨t2, rfl, by simp [mkResult], rfl⟩
  obtain ⟨S, D, G, n, e2, st2, h2, hS, hD, he2, -⟩ := copyLoop_spec ctx sc.errAtPoll sc.files cpy.iter
    ((x.afterDeletes ctx l₁).sendDest (.marker .copying)) (Stats.afterDeletes {} l₁)
  rw [h2]
  have t3 := t2.ext G n
    (fun c hc => by obtain ⟨hd, hc⟩ := Ctx.mem_real.mp hc; obtain ⟨p, rfl⟩ := hS c hc; exact A.sGetFile hd p)
    (fun c hc => by obtain ⟨hd, hc⟩ := Ctx.mem_real.mp hc; exact A.dMutating hd c (hD c hc))
  cases e2 with
  | some e => exact ⟨t3, he2 e rfl, by simp [mkResult], rfl⟩
  | none =>
    have t4 := t3.sendDest (.marker .done) (A.dMarker _)
    cases sc.errAtPoll with
    | some j => exact ⟨t4, rfl, by simp [mkResult], rfl⟩
    | none => exact ⟨t4, rfl, by simp, rfl⟩

theorem execPhase_outcome (sc : Scenario) (ctx : Ctx) (x : XState) (conf : Conf)
    (del : OMap (Details × DelReason)) (cpy : OMap (Details × CopyReason)) :
    (execPhase sc ctx x conf del cpy).outcome.isConsentErr = false ∧
    (sc.errAtPoll.isSome → (execPhase sc ctx x conf del cpy).outcome ≠ .ok) ∧
    (execPhase sc ctx x conf del cpy).prompts = conf.prompts :=
  (execPhase_ok (PS := fun _ => True) (PD := fun _ => True) (F := fun _ => True) sc ctx
    (by constructor <;> intros <;> trivial) x conf del cpy ⟨fun _ _ => trivial, fun _ _ => trivial⟩).2

/-- what the source may have been sent when the execution phase starts -/
def PrepS (w : Wrap) (sc : Scenario) (c : Cmd) : Prop :=
  (∃ r, c = .setRoot r) ∨ ∃ f, compileFilters w.pre w.post sc.filters = some f ∧ c = .getEntries f

/-- what the destination may have been sent when the execution phase starts -/
def PrepD (w : Wrap) (sc : Scenario) (c : Cmd) : Prop :=
  PrepS w sc c ∨ sc.dryRun = false ∧ c = .createRootAncestors

/-- `r` is the result of a run that stopped with `x` sent, or of the execution phase started from `x` -/
def FromPrep (w : Wrap) (sc : Scenario) (r : RunResult) : Prop :=
  ∃ x, TrOK (PrepS w sc) (PrepD w sc) x ∧
    ((∃ o conf, r = mkResult o x conf) ∨
     ∃ ctx conf del cpy, ctx.dryRun = sc.dryRun ∧ r = execPhase sc ctx x conf del cpy)

theorem FromPrep.stop {w : Wrap} {sc : Scenario} {x : XState} {o : Outcome} {conf : Conf} (h : TrOK (PrepS w sc) (PrepD w sc) x) :
    FromPrep w sc (mkResult o x conf) := ⟨x, h, .inl ⟨o, conf, rfl⟩⟩

theorem queryPhase_cases {w : Wrap} {sc : Scenario} {fs : List FilterSpec} {ctx : Ctx} {x : XState} {conf : Conf} {pc : PCfg}
    {srcD : Details} {destD : Option Details} (hfs : compileFilters w.pre w.post sc.filters = some fs)
    (hdry : ctx.dryRun = sc.dryRun) (h : TrOK (PrepS w sc) (PrepD w sc) x) :
    FromPrep w sc (queryPhase sc fs ctx x conf pc srcD destD) := by
  have hg : PrepS w sc (.getEntries fs) := .inr ⟨fs, hfs, rfl⟩
  unfold queryPhase
  cases afterRoots pc srcD destD with
  | none => exact .stop h
  | some t =>
    obtain ⟨ps, srcAsked, destAsked⟩ := t
    simp only
    have hx1 : TrOK (PrepS w sc) (PrepD w sc) (if srcAsked = true then x.sendSrc (.getEntries fs) else x) := by
      split
      · exact h.sendSrc _ hg
      · exact h
    generalize (if srcAsked = true then x.sendSrc (.getEntries fs) else x) = x1 at hx1
    have hx2 : TrOK (PrepS w sc) (PrepD w sc) (if destAsked = true then x1.sendDest (.getEntries fs) else x1) := by
      split
      · exact hx1.sendDest _ (.inl hg)
      · exact hx1
    generalize (if destAsked = true then x1.sendDest (.getEntries fs) else x1) = x2 at hx2
    split
    · exact .stop hx2
    · split
      · exact .stop hx2
      · exact .stop hx2
      · split
        · exact .stop hx2
        · exact ⟨x2, hx2, .inr ⟨ctx, _, _, _, hdry, rfl⟩⟩

theorem runFromRoots_cases {w : Wrap} {sc : Scenario} {fs : List FilterSpec} {ctx : Ctx} {x : XState} {srcD : Details}
    {destD : Option Details} {destDiff : Bool} (hfs : compileFilters w.pre w.post sc.filters = some fs)
    (hdry : ctx.dryRun = sc.dryRun) (h : TrOK (PrepS w sc) (PrepD w sc) x) :
    FromPrep w sc (runFromRoots w sc fs ctx x srcD destD destDiff) := by
  unfold runFromRoots
  simp only
  split
  · exact .stop h
  · exact .stop h
  · apply queryPhase_cases hfs hdry
    split
    · next ha =>
      simp only [Bool.and_eq_true, Bool.not_eq_true'] at ha
      exact h.sendDest _ (.inr ⟨hdry ▸ ha.2, rfl⟩)
    · exact h

/-- **`run` stops during the preparation or hands over to the execution phase**, having sent the source nothing but
`SetRoot` and `GetEntries` with the compiled filters, and the destination these and - not in a dry run -
`CreateRootAncestors`. -/
theorem run_cases (w : Wrap) (sc : Scenario) : FromPrep w sc (run w sc) := by
  have h0 : TrOK (PrepS w sc) (PrepD w sc) ⟨[], [], [], 0⟩ := ⟨fun _ hc => (List.not_mem_nil hc).elim, fun _ hc => (List.not_mem_nil hc).elim⟩
  unfold run
  simp only
  -- one `split` per `match` / `if` of `run`, in its order; each early exit is a `stop` with what has been sent so far
  split
  · exact .stop h0
  next fs hfs =>
  have h1 := h0.sendSrc (.setRoot sc.srcRoot) (.inl ⟨_, rfl⟩)
  split
  · exact .stop h1
  · exact .stop h1
  split
  · exact .stop h1
  · exact .stop h1
  have h2 := h1.sendDest (.setRoot sc.destRoot) (.inl (.inl ⟨_, rfl⟩))
  split
  · exact .stop h2
  split
  · exact .stop h2
  · exact .stop h2
  split
  · have h3 := h2.sendDest (.setRoot (sc.destRoot ++ lastComponent sc.srcRoot)) (.inl (.inl ⟨_, rfl⟩))
    split
    · exact .stop h3
    · exact runFromRoots_cases hfs rfl h3
  · exact runFromRoots_cases hfs rfl h2

/-- **Everything a run sends, classified** — for every scenario (any replies incl. errors and unexpected variants, any
arrival order, any prompt answers, any moment at which a destination error becomes visible): the source is sent only
`SetRoot`, `GetEntries` and — unless it is a dry run — `GetFileContent`; the destination is sent only `SetRoot`,
`GetEntries`, markers and — unless it is a dry run — mutating commands. -/
theorem run_ok {PS PD : Cmd → Prop} (w : Wrap) (sc : Scenario)
    (A : Allowed sc.dryRun PS PD (fun f => compileFilters w.pre w.post sc.filters = some f)) :
    ResOK PS PD (run w sc) := by
  obtain ⟨x, hx, h⟩ := run_cases w sc
  have hS : ∀ c, PrepS w sc c → PS c := by
    rintro _ (⟨r, rfl⟩ | ⟨f, hf, rfl⟩)
    · exact A.sSetRoot r
    · exact A.sGetEntries f hf
  have hx' : TrOK PS PD x := hx.mono hS <| by
    rintro _ ((⟨r, rfl⟩ | ⟨f, hf, rfl⟩) | ⟨hd, rfl⟩)
    · exact A.dSetRoot r
    · exact A.dGetEntries f hf
    · exact A.dMutating hd _ rfl
  obtain ⟨o, conf, h⟩ | ⟨ctx, conf, del, cpy, hd, h⟩ := h <;> rw [h]
  · exact hx'
  · exact (execPhase_ok sc ctx (hd ▸ A) x conf del cpy hx').1

/-- commands that do not delete or overwrite anything on the destination -/
def PD0 (c : Cmd) : Prop := c.mutating = false ∨ c = .createRootAncestors

/-- what a run has sent to the destination when it ends with a consent error, or `ok` although a
destination error was scripted -/
def Before (sc : Scenario) (r : RunResult) : Prop :=
  (r.outcome.isConsentErr = true → ∀ c ∈ r.destTrace, PD0 c) ∧
  (sc.errAtPoll.isSome → r.outcome = .ok → ∀ c ∈ r.destTrace, PD0 c)

/-- for every scenario: a run that ends with a consent error (a behaviour resolved to `error`, a
prompt was cancelled or could not be shown), or that ends `ok` although the destination reported an
error, has sent the destination nothing that deletes or overwrites -/
theorem run_before (w : Wrap) (sc : Scenario) : Before sc (run w sc) := by
  obtain ⟨x, hx, ⟨o, conf, h⟩ | ⟨ctx, conf, del, cpy, -, h⟩⟩ := run_cases w sc <;> rw [h]
  · -- stopped during the preparation: only `SetRoot`, `GetEntries`, `CreateRootAncestors` were sent
    have hd : ∀ c ∈ x.dest, PD0 c := fun c hc => by
      obtain (⟨r, rfl⟩ | ⟨f, -, rfl⟩) | ⟨-, rfl⟩ := hx.2 c hc
      · exact .inl rfl
      · exact .inl rfl
      · exact .inr rfl
    exact ⟨fun _ => hd, fun _ _ => hd⟩
  · -- the execution phase ends neither way
    obtain ⟨h1, h2, -⟩ := execPhase_outcome sc ctx x conf del cpy
    exact ⟨fun h => (by rw [h1] at h; cases h), fun hs ho => absurd ho (h2 hs)⟩

end Rj
