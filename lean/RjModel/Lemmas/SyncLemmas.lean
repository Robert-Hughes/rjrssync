import RjModel.Lemmas.FSLemmas
import RjModel.Lemmas.LinkLemmas
/-! The destination half of a sync (`syncDest`) over the file-system model.  During a phase the destination is an `Overlay`
of the state the phase began in: the paths worked on so far hold what the phase leaves there, every other path is as it was.
One lemma per phase says what the next call does to such a state (`del_step`, `cpy_step`); `runOps_steps` lifts it to any
stretch of the plan.  `sync_outcome` is the exact outcome of both phases: `ok` in the final overlay, unless a folder the plan
removes holds an entry the filters hide, and then `err`.  The mirror theorem `sync_mirror` reads it path by path. -/
namespace Rj
open FS

/-- every proper ancestor of `P` below the world root is a folder: what `ancestors` asks for (`ancestors_ok`) -/
def WayOk (fs : FS) (P : FPath) : Prop := ∀ k, 0 < k → k < P.length → fs.get (P.take k) = some .folder

theorem anc_ok (fs : FS) (pre rest : List Comp)
    (h : ∀ k, 0 < k → k < rest.length → fs.get (pre ++ rest.take k) = some .folder) : anc fs pre rest = .ok := by
  induction rest generalizing pre with
  | nil => rfl
  | cons c rest ih =>
    cases rest with
    | nil => rfl
    | cons c' rest' =>
      have h1 := h 1 (by omega) (by simp)
      simp only [List.take_succ_cons, List.take_zero] at h1
      simp only [anc, h1]
      exact ih _ fun k hk hk' => by simpa using h (k + 1) (by omega) (by simpa using hk')

variable {fs : FS} {P : FPath}

theorem ancestors_ok (h : WayOk fs P) : fs.ancestors P = .ok :=
  anc_ok fs [] P (by simpa [WayOk] using h)

theorem take_ne_self {α : Type} {l : List α} {k : Nat} (h : k < l.length) : l.take k ≠ l := fun e => by
  have := congrArg List.length e
  simp at this; omega

theorem wayOk_set (h : WayOk fs P) (hP : P ≠ []) (v : Option Node) : WayOk (fs.set P v) P := by
  intro k hk0 hk
  rw [FS.get_set hP, if_neg (take_ne_self hk)]
  exact h k hk0 hk

theorem mem_childrenOf {dir : FPath} {e : FPath × Node} :
    e ∈ fs.childrenOf dir ↔ e ∈ fs.nodes ∧ ∃ c, e.1 = dir ++ [c] := by
  simp only [FS.childrenOf, List.mem_filter, decide_eq_true_eq, and_congr_right_iff]
  exact fun _ => ⟨fun ⟨hne, hd⟩ => ⟨_, hd ▸ (List.dropLast_concat_getLast hne).symm⟩, fun ⟨c, h⟩ => by simp [h]⟩

theorem child_mem {dir : FPath} {c : Comp} {n : Node} (h : fs.get (dir ++ [c]) = some n) :
    (dir ++ [c], n) ∈ fs.childrenOf dir :=
  mem_childrenOf.mpr ⟨FS.mem_of_get (by simp) h, c, rfl⟩

theorem hasChild_iff : fs.hasChild P = true ↔ ∃ c n, fs.get (P ++ [c]) = some n := by
  simp only [FS.hasChild, Bool.not_eq_true', List.isEmpty_eq_false_iff_exists_mem, mem_childrenOf]
  constructor
  · rintro ⟨⟨q, v⟩, he, c, rfl⟩
    obtain ⟨n, hn⟩ := Option.isSome_iff_exists.mp (FS.get_isSome_of_mem (by simp) he)
    exact ⟨c, n, hn⟩
  · rintro ⟨c, n, h⟩
    exact ⟨_, mem_childrenOf.mp (child_mem h)⟩

theorem hasChild_false (fs : FS) (P : FPath) (h : ∀ c, fs.get (P ++ [c]) = none) : fs.hasChild P = false :=
  Bool.eq_false_iff.mpr fun hc => by obtain ⟨c, n, hn⟩ := hasChild_iff.mp hc; rw [h c] at hn; cases hn

theorem append_inj_left' (r p q : FPath) : r ++ q = r ++ p ↔ q = p := List.append_cancel_left_eq r q p ▸ Iff.rfl

def GetSet (fs fs' : FS) (P : FPath) (v : Node) : Prop := ∀ q, fs'.get q = if q = P then some v else fs.get q

theorem mkdir_ok {fs : FS} {P : FPath} (hP : P ≠ []) (hw : WayOk fs P) (hc : fs.get P = none) :
    ∃ fs', fs.mkdir P = .ok fs' ∧ GetSet fs fs' P .folder := by
  refine ⟨fs.set P (some .folder), ?_, fun q => FS.get_set hP⟩
  simp [FS.mkdir, withAnc, ancestors_ok hw, hc]

theorem mksymlink_ok {fs : FS} {P : FPath} {text : List UInt8} (hP : P ≠ []) (hw : WayOk fs P) (hc : fs.get P = none)
    (ht : text ≠ []) (h0 : (0 : UInt8) ∉ text) :
    ∃ fs', fs.mksymlink P text = .ok fs' ∧ GetSet fs fs' P (.symlink text) := by
  refine ⟨fs.set P (some (.symlink text)), ?_, fun q => FS.get_set hP⟩
  simp [FS.mksymlink, withAnc, ancestors_ok hw, hc, ht, h0]

theorem putFile_ok {fs : FS} {P : FPath} (b : List UInt8) (m : Int) (hP : P ≠ []) (hw : WayOk fs P)
    (hc : fs.get P = none ∨ ∃ b' mt, fs.get P = some (.file b' mt)) :
    ∃ fs', putFile fs P b m = .ok fs' ∧ GetSet fs fs' P (.file b (.at m)) := by
  -- the three calls set the same path: `set_set` collapses them
  refine ⟨fs.set P (some (.file b (.at m))), ?_, fun q => FS.get_set hP⟩
  have h1 : fs.createTrunc P = .ok (fs.set P (some (.file [] .fresh))) := by
    rcases hc with hc | ⟨b', mt, hc⟩ <;> simp [FS.createTrunc, withAnc, ancestors_ok hw, hc]
  have h3 : (fs.set P (some (.file b .fresh))).setMtime P m = .ok (fs.set P (some (.file b (.at m)))) := by
    simp [FS.setMtime, withAnc, ancestors_ok (wayOk_set hw hP _), FS.get_set hP, FS.set_set]
  simp [putFile, OpR.bind, h1, append_set hP [] b, h3]

theorem delOp_eq {r p : FPath} {n : Node} (hP : r ++ p ≠ []) (hw : WayOk fs (r ++ p)) (hc : fs.get (r ++ p) = some n) :
    delOp fs r (p, n) = if n = .folder ∧ fs.hasChild (r ++ p) = true then .err else .ok (fs.set (r ++ p) none) := by
  cases n <;> simp [delOp, FS.rmdir, FS.unlink, withAnc, ancestors_ok hw, hc, hP]

theorem cpyOp_ok {r p : FPath} {e : SEntry} (hP : r ++ p ≠ []) (hw : WayOk fs (r ++ p))
    (hl : ∀ t, e = .link t → writeLinkB '/' t ≠ [] ∧ (0 : UInt8) ∉ writeLinkB '/' t)
    (hc : ∀ n, fs.get (r ++ p) = some n → ∃ b m b' mt, e = .file b m ∧ n = .file b' mt) :
    ∃ fs', cpyOp fs r (p, e) = .ok fs' ∧ GetSet fs fs' (r ++ p) (written e) := by
  cases hg : fs.get (r ++ p) with
  | none =>
    cases e with
    | folder => exact mkdir_ok hP hw hg
    | link t => exact mksymlink_ok hP hw hg (hl t rfl).1 (hl t rfl).2
    | file b m => exact putFile_ok b m hP hw (.inl hg)
  | some n =>
    obtain ⟨b, m, b', mt, rfl, rfl⟩ := hc n hg
    exact putFile_ok b m hP hw (.inr ⟨b', mt, hg⟩)

/-- what is assumed of the destination below the doer's root `r`, and of its listing -/
structure DestWF (vis : FPath → Bool) (fs : FS) (r : FPath) (ld : List (FPath × Node)) : Prop where
  rootFolder : fs.get r = some .folder
  rootAnc : ∀ k, k < r.length → fs.get (r.take k) = some .folder
  closed : ∀ p, p ≠ [] → fs.get (r ++ p) ≠ none → fs.get (r ++ p.dropLast) = some .folder
  listed : ∀ p n, (p, n) ∈ ld ↔ (p ≠ [] ∧ vis p = true ∧ fs.get (r ++ p) = some n)
  parentFirst : ld.Pairwise (fun a b => ¬ b.1 <+: a.1)

/-- a destination below the root `r` that is a tree: the root and what lies above it are folders, every entry's parent is a
folder (the first three assumptions of `DestWF`) -/
def TreeBelow (fs : FS) (r : FPath) : Prop :=
  fs.get r = some .folder ∧ (∀ k, k < r.length → fs.get (r.take k) = some .folder) ∧
    ∀ p, p ≠ [] → fs.get (r ++ p) ≠ none → fs.get (r ++ p.dropLast) = some .folder

/-- what is assumed of the source tree and its listing -/
structure SrcWF (vis : FPath → Bool) (src : FPath → Option SEntry) (ls : List (FPath × SEntry)) : Prop where
  closed : ∀ p, p ≠ [] → src p ≠ none → p.dropLast ≠ [] → src p.dropLast = some .folder
  listed : ∀ p e, (p, e) ∈ ls ↔ (p ≠ [] ∧ vis p = true ∧ src p = some e)
  /-- an excluded folder hides everything beneath it: what is visible has visible ancestors -/
  visPrefix : ∀ p k, vis p = true → vis (p.take k) = true
  parentFirst : ls.Pairwise (fun a b => ¬ b.1 <+: a.1)
  links : ∀ p t, src p = some (.link t) → (∃ b, t = readLinkB b) ∧ writeLinkB '/' t ≠ [] ∧ (0 : UInt8) ∉ writeLinkB '/' t

theorem prefixes_folders {α : Type} (f : FPath → Option α) (dir : α)
    (hc : ∀ p, p ≠ [] → f p ≠ none → p.dropLast ≠ [] → f p.dropLast = some dir)
    (p : FPath) (hp : f p ≠ none) (k : Nat) (hk0 : 0 < k) (hk : k < p.length) : f (p.take k) = some dir := by
  induction hn : p.length generalizing p k with
  | zero => omega
  | succ n ih =>
    have hd := hc p (List.ne_nil_of_length_pos (by omega)) hp (List.ne_nil_of_length_pos (by simp; omega))
    by_cases hk' : k = p.length - 1
    · rw [hk', ← List.dropLast_eq_take]; exact hd
    · have := ih p.dropLast (by simp [hd]) k hk0 (by simp; omega) (by simp [hn])
      rwa [List.dropLast_eq_take, List.take_take, Nat.min_eq_left (by omega)] at this

variable {vis : FPath → Bool} {fs0 fs' : FS} {r p : FPath} {ld : List (FPath × Node)} {src : FPath → Option SEntry}
  {ls : List (FPath × SEntry)} {dst : FPath → Option Node} {e : SEntry} {n : Node}

theorem mem_planDel {x : FPath × Node} :
    x ∈ planDel src ld ↔ x ∈ ld ∧ needDel src x = true := by
  simp [planDel, List.mem_filter]

theorem mem_planCpy {x : FPath × SEntry} :
    x ∈ planCpy dst ls ↔ x ∈ ls ∧ needCpy dst x = true := by
  simp [planCpy, List.mem_filter]

theorem needDel_folder : needDel src (p, .folder) = true ↔ src p ≠ some .folder := by
  unfold needDel
  cases src p with
  | none => simp
  | some e => cases e <;> simp [compatible]

theorem needCpy_folder : needCpy dst (p, .folder) = false ↔ dst p = some .folder := by
  unfold needCpy
  cases dst p with
  | none => simp
  | some n => cases n <;> simp [upToDate]

theorem upToDate_compatible (h : upToDate e n = true) : compatible e n = true := by
  unfold upToDate at h
  split at h
  · rfl
  · rfl
  · exact h
  · cases h

theorem file_of_stale (hc : compatible e n = true) (hu : upToDate e n = false) :
    ∃ b m b' mt, e = .file b m ∧ n = .file b' mt := by
  cases e <;> cases n <;> simp_all [compatible, upToDate]

theorem mem_keys_filter {α : Type} {l : List (FPath × α)} {P : FPath → α → Prop} (hl : ∀ p a, (p, a) ∈ l ↔ P p a)
    (f : FPath × α → Bool) {q : FPath} : q ∈ (l.filter f).map (·.1) ↔ ∃ a, P q a ∧ f (q, a) = true := by
  simp only [List.mem_map, List.mem_filter, Prod.exists, hl]
  exact ⟨fun ⟨p, a, h, e⟩ => e ▸ ⟨a, h⟩, fun ⟨a, h⟩ => ⟨q, a, h, rfl⟩⟩

theorem mem_keys_of_split {α : Type} {l done rest : List (FPath × α)} (e : l = done ++ rest) {q : FPath}
    (h : q ∈ done.map (·.1)) : q ∈ l.map (·.1) := by
  rw [e, List.map_append]; exact List.mem_append_left _ h

theorem mem_planDel_keys (hw : DestWF vis fs0 r ld) {q : FPath} :
    q ∈ (planDel src ld).map (·.1) ↔
      ∃ n, (q ≠ [] ∧ vis q = true ∧ fs0.get (r ++ q) = some n) ∧ needDel src (q, n) = true := by
  rw [planDel, List.map_reverse, List.mem_reverse]; exact mem_keys_filter hw.listed _

theorem mem_planCpy_keys (hs : SrcWF vis src ls) {q : FPath} :
    q ∈ (planCpy dst ls).map (·.1) ↔ ∃ e, (q ≠ [] ∧ vis q = true ∧ src q = some e) ∧ needCpy dst (q, e) = true :=
  mem_keys_filter hs.listed _

theorem planDel_keys_vis (hw : DestWF vis fs0 r ld) {q : FPath} (h : q ∈ (planDel src ld).map (·.1)) :
    q ≠ [] ∧ vis q = true :=
  let ⟨_, h, _⟩ := (mem_planDel_keys hw).mp h; ⟨h.1, h.2.1⟩

theorem planCpy_keys_vis (hs : SrcWF vis src ls) {q : FPath} (h : q ∈ (planCpy dst ls).map (·.1)) :
    q ≠ [] ∧ vis q = true :=
  let ⟨_, h, _⟩ := (mem_planCpy_keys hs).mp h; ⟨h.1, h.2.1⟩

/-- deletions run children first: no path deleted earlier is a prefix of one deleted later -/
theorem planDel_order (hw : DestWF vis fs0 r ld) {done rest : List (FPath × Node)} (e : planDel src ld = done ++ rest) :
    ∀ a ∈ done.map (·.1), ∀ b ∈ rest.map (·.1), ¬ a <+: b := by
  have h : ((planDel src ld).map (·.1)).Pairwise (fun a b => ¬ a <+: b) := by
    rw [planDel, List.map_reverse, List.pairwise_reverse, List.pairwise_map]; exact hw.parentFirst.filter _
  rw [e, List.map_append, List.pairwise_append] at h
  exact h.2.2

/-- creations run parents first: no path created later is a prefix of one created earlier -/
theorem planCpy_order (hs : SrcWF vis src ls) {done rest : List (FPath × SEntry)} (e : planCpy dst ls = done ++ rest) :
    ∀ a ∈ done.map (·.1), ∀ b ∈ rest.map (·.1), ¬ b <+: a := by
  have h : ((planCpy dst ls).map (·.1)).Pairwise (fun a b => ¬ b <+: a) := List.pairwise_map.mpr (hs.parentFirst.filter _)
  rw [e, List.map_append, List.pairwise_append] at h
  exact h.2.2

/-- **Children first.**  A destination entry directly beneath a path among the deletions `done` so far is itself among
them, if it is visible: the plan deletes it (the source holds nothing beneath what is not a folder there), and not later. -/
theorem child_of_deleted_is_deleted (hw : DestWF vis fs0 r ld) (hs : SrcWF vis src ls) {done rest : List (FPath × Node)}
    (hsplit : planDel src ld = done ++ rest) {q : FPath} {c : Comp}
    (hq : q ∈ done.map (·.1)) (hc : fs0.get (r ++ (q ++ [c])) = some n)
    (hv : (q, Node.folder) ∈ planDel src ld → vis (q ++ [c]) = true) : q ++ [c] ∈ done.map (·.1) := by
  obtain ⟨n', hql, hqdel⟩ := (mem_planDel_keys hw).mp (mem_keys_of_split hsplit hq)
  have hqf := hw.closed (q ++ [c]) (by simp) (by simp [hc])
  rw [List.dropLast_concat, hql.2.2, Option.some.injEq] at hqf
  subst hqf
  have hsc : src (q ++ [c]) = none := Classical.byContradiction fun hsc => by
    have := hs.closed (q ++ [c]) (by simp) hsc (by simpa using hql.1)
    rw [List.dropLast_concat] at this
    exact needDel_folder.mp hqdel this
  have : q ++ [c] ∈ (planDel src ld).map (·.1) := (mem_planDel_keys hw).mpr
    ⟨n, ⟨by simp, hv (mem_planDel.mpr ⟨(hw.listed _ _).mpr hql, hqdel⟩), hc⟩, by simp [needDel, hsc]⟩
  rw [hsplit, List.map_append, List.mem_append] at this
  exact this.resolve_right fun h => planDel_order hw hsplit q hq _ h (List.prefix_append q [c])

theorem rootAnc_of_outside (hout : ∀ q, ¬ r <+: q → fs.get q = fs0.get q)
    (hanc : ∀ k, k < r.length → fs0.get (r.take k) = some .folder) (k : Nat) (hk : k < r.length) :
    fs.get (r.take k) = some .folder := by
  rw [hout, hanc k hk]
  intro hpre
  have := hpre.length_le
  simp at this; omega

/-- **The state during a phase**: below the root `r` the paths `ks` worked on so far hold `v`, every other path what it
held when the phase began (`base`); off the root nothing differs from `fs0`. -/
structure Overlay (fs0 : FS) (r : FPath) (base v : FPath → Option Node) (ks : List FPath) (fs : FS) : Prop where
  inside : ∀ p, fs.get (r ++ p) = if p ∈ ks then v p else base p
  outside : ∀ q, ¬ r <+: q → fs.get q = fs0.get q

namespace Overlay
variable {base v : FPath → Option Node} {ks ks' : List FPath}

theorem step (h : Overlay fs0 r base v ks fs) (hks : ks' = ks ++ [p])
    (hg : ∀ q, fs'.get q = if q = r ++ p then v p else fs.get q) : Overlay fs0 r base v ks' fs' := by
  subst hks
  refine ⟨fun q => ?_, fun q hq => ?_⟩
  · rw [hg, h.inside]
    by_cases hqp : q = p <;> simp [hqp]
  · rw [hg, if_neg (by rintro rfl; exact hq (List.prefix_append r p)), h.outside q hq]

theorem get_of_not_mem (h : Overlay fs0 r base v ks fs) (hk : p ∉ ks) : fs.get (r ++ p) = base p := by
  rw [h.inside, if_neg hk]

theorem wayOk (h : Overlay fs0 r base v ks fs) (hanc : ∀ k, k < r.length → fs0.get (r.take k) = some .folder)
    (hroot : fs.get r = some .folder) (hp : ∀ k, 0 < k → k < p.length → fs.get (r ++ p.take k) = some .folder) :
    WayOk fs (r ++ p) := by
  intro k hk0 hk
  rw [List.take_append]
  rcases Nat.lt_trichotomy k r.length with hkr | rfl | hkr
  · rw [Nat.sub_eq_zero_of_le (by omega), List.take_zero, List.append_nil]
    exact rootAnc_of_outside h.outside hanc k hkr
  · simpa using hroot
  · rw [List.take_of_length_le (by omega)]
    exact hp _ (by omega) (by simp at hk; omega)

end Overlay

def DelState (fs0 : FS) (r : FPath) (done : List (FPath × Node)) (fs : FS) : Prop :=
  Overlay fs0 r (fun p => fs0.get (r ++ p)) (fun _ => none) (done.map (·.1)) fs

/-- the one reason a planned deletion can fail: a folder that holds, directly beneath it, an entry the filters hide -/
def HiddenChild (vis : FPath → Bool) (fs0 : FS) (r : FPath) (x : FPath × Node) : Prop :=
  x.2 = .folder ∧ ∃ c n, fs0.get (r ++ (x.1 ++ [c])) = some n ∧ vis (x.1 ++ [c]) = false

/-- **One deletion.**  In the state after the deletions `done`, the next one is reached through real folders (deletions run
children first, so no prefix of its path is gone yet); it removes its entry, unless it is a folder with a hidden child: then
it fails. -/
theorem del_step (hw : DestWF vis fs0 r ld) (hs : SrcWF vis src ls) (done : List (FPath × Node)) (x : FPath × Node)
    (rest : List (FPath × Node)) (fs : FS) (hsplit : planDel src ld = done ++ x :: rest)
    (hst : DelState fs0 r done fs) :
    (¬ HiddenChild vis fs0 r x ∧ ∃ fs', delOp fs r x = .ok fs' ∧ DelState fs0 r (done ++ [x]) fs') ∨
    (HiddenChild vis fs0 r x ∧ delOp fs r x = .err) := by
  obtain ⟨p, n⟩ := x
  have hx : (p, n) ∈ planDel src ld := by simp [hsplit]
  obtain ⟨hpne, -, hpn⟩ := (hw.listed p n).mp (mem_planDel.mp hx).1
  -- no prefix of `p` has been deleted
  have hsame : ∀ q, q <+: p → fs.get (r ++ q) = fs0.get (r ++ q) := fun q hq =>
    hst.get_of_not_mem fun hm => planDel_order hw hsplit q hm p (by simp) hq
  have hway : WayOk fs (r ++ p) := hst.wayOk hw.rootAnc (by simpa [hw.rootFolder] using hsame [] (List.nil_prefix ..))
    fun k hk0 hk => (hsame _ (List.take_prefix k p)).trans
      (prefixes_folders (fun q => fs0.get (r ++ q)) Node.folder (fun q hq hq' _ => hw.closed q hq hq') p (by simp [hpn])
        k hk0 hk)
  have hrp : r ++ p ≠ [] := by simp [hpne]
  have hop := delOp_eq hrp hway ((hsame p (List.prefix_refl p)).trans hpn)
  -- of the children the destination held, those the filters hide are left: no deletion names them, and the others went before
  have hkid : ∀ c n', fs0.get (r ++ (p ++ [c])) = some n' → (p ++ [c] ∈ done.map (·.1) ↔ vis (p ++ [c]) = true) :=
    fun c n' hc => ⟨fun hm => (planDel_keys_vis hw (mem_keys_of_split hsplit hm)).2, fun hv => by
      simpa using child_of_deleted_is_deleted hw hs (done := done ++ [(p, n)]) (by simpa using hsplit) (by simp) hc fun _ => hv⟩
  have hF : HiddenChild vis fs0 r (p, n) ↔ n = .folder ∧ fs.hasChild (r ++ p) = true := by
    refine and_congr_right fun _ => (hasChild_iff.trans (exists₂_congr fun c n' => ?_)).symm
    rw [List.append_assoc, hst.inside]
    constructor
    · intro h
      split at h
      · cases h
      · next hm => exact ⟨h, by simpa [hkid c n' h] using hm⟩
    · rintro ⟨hc, hv⟩
      rwa [if_neg (by simp [hkid c n' hc, hv])]
  by_cases hh : HiddenChild vis fs0 r (p, n)
  · exact .inr ⟨hh, by rw [hop, if_pos (hF.mp hh)]⟩
  · exact .inl ⟨hh, _, by rw [hop, if_neg (mt hF.mpr hh)], hst.step (by simp) fun _ => FS.get_set hrp⟩

/-- the safety hypothesis of the mirror theorems: no folder the plan removes holds a hidden entry -/
theorem not_hiddenChild_of_safe
    (hsafe : ∀ p c n, (p, Node.folder) ∈ planDel src ld → fs0.get (r ++ (p ++ [c])) = some n → vis (p ++ [c]) = true)
    (x : FPath × Node) (hx : x ∈ planDel src ld) : ¬ HiddenChild vis fs0 r x := by
  obtain ⟨p, n⟩ := x
  rintro ⟨hn, c, n', hc, hv⟩
  cases hn
  rw [hsafe p c n' hx hc] at hv
  cases hv

/-- `runOps_steps (del_step ..)` for a stretch `todo` of the planned deletions, with `DelState` written out; `hsafe` excludes
the one failure there is, a folder with a hidden child (`not_hiddenChild_of_safe`). -/
theorem run_dels_gen {vis : FPath → Bool} {fs0 : FS} {r : FPath} {ld : List (FPath × Node)} {src : FPath → Option SEntry}
    {ls : List (FPath × SEntry)} (hw : DestWF vis fs0 r ld) (hs : SrcWF vis src ls)
    (hsafe : ∀ p c n, (p, Node.folder) ∈ planDel src ld → fs0.get (r ++ (p ++ [c])) = some n → vis (p ++ [c]) = true)
    (todo rest : List (FPath × Node)) :
    ∀ (processed : List (FPath × Node)) (fs : FS),
      planDel src ld = processed ++ todo ++ rest →
      (∀ p, fs.get (r ++ p) = if p ∈ processed.map (·.1) then none else fs0.get (r ++ p)) →
      (∀ q, ¬ r <+: q → fs.get q = fs0.get q) →
      ∃ fs', runOps (fun f x => delOp f r x) fs todo = .ok fs' ∧
        (∀ p, fs'.get (r ++ p) = if p ∈ (processed ++ todo).map (·.1) then none else fs0.get (r ++ p)) ∧
        (∀ q, ¬ r <+: q → fs'.get q = fs0.get q) := by
  intro processed fs hsplit hin hout
  rcases runOps_steps (del_step hw hs) todo rest processed fs hsplit ⟨hin, hout⟩ with
    ⟨-, fs', hrun, hst⟩ | ⟨⟨x, hx, hF⟩, -⟩
  · exact ⟨fs', hrun, hst.inside, hst.outside⟩
  · exact absurd hF (not_hiddenChild_of_safe hsafe x (by simp [hsplit, hx]))

/-- `run_dels_gen` for a stretch that ends the plan: afterwards exactly the planned paths are gone. -/
theorem run_dels {vis : FPath → Bool} {fs0 : FS} {r : FPath} {ld : List (FPath × Node)} {src : FPath → Option SEntry}
    {ls : List (FPath × SEntry)} (hw : DestWF vis fs0 r ld) (hs : SrcWF vis src ls)
    (hsafe : ∀ p c n, (p, Node.folder) ∈ planDel src ld → fs0.get (r ++ (p ++ [c])) = some n → vis (p ++ [c]) = true)
    (todo : List (FPath × Node)) :
    ∀ (processed : List (FPath × Node)) (fs : FS),
      planDel src ld = processed ++ todo →
      (∀ p, fs.get (r ++ p) = if p ∈ processed.map (·.1) then none else fs0.get (r ++ p)) →
      (∀ q, ¬ r <+: q → fs.get q = fs0.get q) →
      ∃ fs', runOps (fun f x => delOp f r x) fs todo = .ok fs' ∧
        (∀ p, fs'.get (r ++ p) = if p ∈ (planDel src ld).map (·.1) then none else fs0.get (r ++ p)) ∧
        (∀ q, ¬ r <+: q → fs'.get q = fs0.get q) := by
  intro processed fs hsplit hin hout
  obtain ⟨fs', h1, h2, h3⟩ := run_dels_gen hw hs hsafe todo [] processed fs (by simpa using hsplit) hin hout
  exact ⟨fs', h1, by rw [hsplit]; exact h2, h3⟩

/-- `run_dels` without `hsafe`, both outcomes of `runOps_steps (del_step ..)`: all planned paths gone, or `err` (a
`remove_dir` on a folder that still holds an entry the filters hide) — never `escape`: no call passes through a link. -/
theorem run_dels_total {vis : FPath → Bool} {fs0 : FS} {r : FPath} {ld : List (FPath × Node)} {src : FPath → Option SEntry}
    {ls : List (FPath × SEntry)} (hw : DestWF vis fs0 r ld) (hs : SrcWF vis src ls)
    (todo : List (FPath × Node)) :
    ∀ (processed : List (FPath × Node)) (fs : FS),
      planDel src ld = processed ++ todo →
      (∀ p, fs.get (r ++ p) = if p ∈ processed.map (·.1) then none else fs0.get (r ++ p)) →
      (∀ q, ¬ r <+: q → fs.get q = fs0.get q) →
      (∃ fs', runOps (fun f x => delOp f r x) fs todo = .ok fs' ∧
        (∀ p, fs'.get (r ++ p) = if p ∈ (planDel src ld).map (·.1) then none else fs0.get (r ++ p)) ∧
        (∀ q, ¬ r <+: q → fs'.get q = fs0.get q)) ∨
      runOps (fun f x => delOp f r x) fs todo = .err := by
  intro processed fs hsplit hin hout
  rcases runOps_steps (del_step hw hs) todo [] processed fs (by simpa using hsplit) ⟨hin, hout⟩ with
    ⟨-, fs', hrun, hst⟩ | ⟨-, herr⟩
  · exact .inl ⟨fs', hrun, by rw [hsplit]; exact hst.inside, hst.outside⟩
  · exact .inr herr

def afterDels (fs0 : FS) (r : FPath) (src : FPath → Option SEntry) (ld : List (FPath × Node)) (q : FPath) : Option Node :=
  if q ∈ (planDel src ld).map (·.1) then none else fs0.get (r ++ q)

def CpyState (fs0 : FS) (r : FPath) (src : FPath → Option SEntry) (ld : List (FPath × Node)) (done : List (FPath × SEntry))
    (fs : FS) : Prop :=
  Overlay fs0 r (afterDels fs0 r src ld) (fun q => (src q).map written) (done.map (·.1)) fs

theorem afterDels_vis (hw : DestWF vis fs0 r ld) {q : FPath} (hq : q ≠ []) (hv : vis q = true) :
    afterDels fs0 r src ld q = (fs0.get (r ++ q)).filter fun n => !needDel src (q, n) := by
  simp only [afterDels, mem_planDel_keys hw, hq, hv, ne_eq, not_false_eq_true, true_and]
  cases fs0.get (r ++ q) with
  | none => simp
  | some n => cases h : needDel src (q, n) <;> simp [Option.filter, h]

theorem afterDels_hidden (hw : DestWF vis fs0 r ld) {q : FPath} (h : ¬ (q ≠ [] ∧ vis q = true)) :
    afterDels fs0 r src ld q = fs0.get (r ++ q) :=
  if_neg (mt (planDel_keys_vis hw) h)

theorem afterDels_at_planned (hw : DestWF vis fs0 r ld) (hs : SrcWF vis src ls)
    (h : (p, e) ∈ planCpy (fun p => fs0.get (r ++ p)) ls) (n : Node) (hn : afterDels fs0 r src ld p = some n) :
    ∃ b m b' mt, e = .file b m ∧ n = .file b' mt := by
  obtain ⟨hls, hcpy⟩ := mem_planCpy.mp h
  obtain ⟨hpne, hpv, hpe⟩ := (hs.listed p e).mp hls
  rw [afterDels_vis hw hpne hpv] at hn
  obtain ⟨hd, hdel⟩ := Option.filter_eq_some_iff.mp hn
  exact file_of_stale (by simpa [needDel, hpe] using hdel) (by simpa [needCpy, hd] using hcpy)

/-- **A source folder that no pending creation names is a destination folder by now**: created already, or there from the
start (and then compatible, so the delete phase left it). -/
theorem cpy_folder_ready (hw : DestWF vis fs0 r ld) (hs : SrcWF vis src ls) {done rest : List (FPath × SEntry)}
    (hsplit : planCpy (fun p => fs0.get (r ++ p)) ls = done ++ rest)
    (hin : ∀ q, fs.get (r ++ q) = if q ∈ done.map (·.1) then (src q).map written else afterDels fs0 r src ld q)
    {q : FPath} (hq : q ≠ []) (hv : vis q = true) (hsq : src q = some .folder) (hnr : q ∉ rest.map (·.1)) :
    fs.get (r ++ q) = some .folder := by
  rw [hin]
  split
  · simp [hsq, written]
  · next hnd =>
    have hnc : needCpy (fun p => fs0.get (r ++ p)) (q, .folder) = false := Bool.eq_false_iff.mpr fun hnc => by
      have := (mem_planCpy_keys hs).mpr ⟨_, ⟨hq, hv, hsq⟩, hnc⟩
      rw [hsplit, List.map_append, List.mem_append] at this
      exact this.elim hnd hnr
    simp [afterDels_vis hw hq hv, needCpy_folder.mp hnc, Option.filter, needDel, hsq, compatible]

/-- **One creation.**  Every proper prefix of its path is a source folder that is not pending (creations run parents first),
so the way is clear; at the path the delete phase has left nothing, or a file for a file: the call succeeds. -/
theorem cpy_step (hw : DestWF vis fs0 r ld) (hs : SrcWF vis src ls) (done : List (FPath × SEntry)) (x : FPath × SEntry)
    (rest : List (FPath × SEntry)) (fs : FS) (hsplit : planCpy (fun p => fs0.get (r ++ p)) ls = done ++ x :: rest)
    (hst : CpyState fs0 r src ld done fs) : ∃ fs', cpyOp fs r x = .ok fs' ∧ CpyState fs0 r src ld (done ++ [x]) fs' := by
  obtain ⟨p, e⟩ := x
  have hx : (p, e) ∈ planCpy (fun p => fs0.get (r ++ p)) ls := by simp [hsplit]
  obtain ⟨hpne, hpvis, hpe⟩ := (hs.listed p e).mp (mem_planCpy.mp hx).1
  have hroot : fs.get r = some .folder := by
    have := hst.get_of_not_mem (p := []) fun hm => (planCpy_keys_vis hs (mem_keys_of_split hsplit hm)).1 rfl
    rwa [afterDels_hidden hw (fun h => h.1 rfl), List.append_nil, hw.rootFolder] at this
  have hway : WayOk fs (r ++ p) := hst.wayOk hw.rootAnc hroot fun k hk0 hk =>
    cpy_folder_ready hw hs hsplit hst.inside (by simp [List.take_eq_nil_iff, hpne]; omega) (hs.visPrefix p k hpvis)
      (prefixes_folders src SEntry.folder hs.closed p (by simp [hpe]) k hk0 hk) fun hm => by
        rcases List.mem_cons.mp hm with h | h
        · exact take_ne_self hk h
        · exact planCpy_order hs (done := done ++ [(p, e)]) (by simpa using hsplit) p (by simp) _ h (List.take_prefix k p)
  have hcur := hst.get_of_not_mem fun hm => planCpy_order hs hsplit p hm p (by simp) (List.prefix_refl p)
  obtain ⟨fs1, hop, hgs⟩ := cpyOp_ok (by simp [hpne]) hway (fun t ht => (hs.links p t (ht ▸ hpe)).2)
    fun n hn => afterDels_at_planned hw hs hx n (hcur.symm.trans hn)
  exact ⟨fs1, hop, hst.step (p := p) (by simp) (by simpa [hpe, GetSet] using hgs)⟩

/-- `runOps_steps_ok (cpy_step ..)` for a stretch `todo` of the planned creations, with `CpyState` written out.  No creation
can fail, so there is no counterpart of `hsafe`. -/
theorem run_cpys_gen {vis : FPath → Bool} {fs0 : FS} {r : FPath} {ld : List (FPath × Node)} {src : FPath → Option SEntry}
    {ls : List (FPath × SEntry)} (hw : DestWF vis fs0 r ld) (hs : SrcWF vis src ls)
    (todo rest : List (FPath × SEntry)) :
    ∀ (processed : List (FPath × SEntry)) (fs : FS),
      planCpy (fun p => fs0.get (r ++ p)) ls = processed ++ todo ++ rest →
      (∀ q, fs.get (r ++ q) = if q ∈ processed.map (·.1) then (src q).map written else afterDels fs0 r src ld q) →
      (∀ q, ¬ r <+: q → fs.get q = fs0.get q) →
      ∃ fs', runOps (fun f x => cpyOp f r x) fs todo = .ok fs' ∧
        (∀ q, fs'.get (r ++ q) = if q ∈ (processed ++ todo).map (·.1) then (src q).map written
          else afterDels fs0 r src ld q) ∧
        (∀ q, ¬ r <+: q → fs'.get q = fs0.get q) := by
  intro processed fs hsplit hin hout
  obtain ⟨fs', hrun, hst⟩ := runOps_steps_ok (cpy_step hw hs) todo rest processed fs hsplit ⟨hin, hout⟩
  exact ⟨fs', hrun, hst.inside, hst.outside⟩

/-- `run_cpys_gen` for a stretch that ends the plan. -/
theorem run_cpys {vis : FPath → Bool} {fs0 : FS} {r : FPath} {ld : List (FPath × Node)} {src : FPath → Option SEntry}
    {ls : List (FPath × SEntry)} (hw : DestWF vis fs0 r ld) (hs : SrcWF vis src ls)
    (todo : List (FPath × SEntry)) :
    ∀ (processed : List (FPath × SEntry)) (fs : FS),
      planCpy (fun p => fs0.get (r ++ p)) ls = processed ++ todo →
      (∀ q, fs.get (r ++ q) = if q ∈ processed.map (·.1) then (src q).map written else afterDels fs0 r src ld q) →
      (∀ q, ¬ r <+: q → fs.get q = fs0.get q) →
      ∃ fs', runOps (fun f x => cpyOp f r x) fs todo = .ok fs' ∧
        (∀ q, fs'.get (r ++ q) = if q ∈ (planCpy (fun p => fs0.get (r ++ p)) ls).map (·.1) then (src q).map written
          else afterDels fs0 r src ld q) ∧
        (∀ q, ¬ r <+: q → fs'.get q = fs0.get q) := by
  intro processed fs hsplit hin hout
  obtain ⟨fs', h1, h2, h3⟩ := run_cpys_gen hw hs todo [] processed fs (by simpa using hsplit) hin hout
  exact ⟨fs', h1, by rw [hsplit]; exact h2, h3⟩

/-- **The destination half of a sync, whatever the filters hide**: if no folder the plan removes holds a hidden entry it
ends `ok`, in exactly the state "what the delete phase left, overlaid with what was written"; otherwise it ends with an
*error*.  It never follows a link. -/
theorem sync_outcome (hw : DestWF vis fs0 r ld) (hs : SrcWF vis src ls) :
    ((∀ x ∈ planDel src ld, ¬ HiddenChild vis fs0 r x) ∧ ∃ fs', syncDest fs0 r src ls ld = .ok fs' ∧
      CpyState fs0 r src ld (planCpy (fun p => fs0.get (r ++ p)) ls) fs') ∨
    ((∃ x ∈ planDel src ld, HiddenChild vis fs0 r x) ∧ syncDest fs0 r src ls ld = .err) := by
  rcases runOps_steps (del_step hw hs) (planDel src ld) [] [] fs0 (List.append_nil _).symm ⟨fun _ => rfl, fun _ _ => rfl⟩ with
    ⟨hno, fs1, hd, hst⟩ | ⟨hyes, herr⟩
  · obtain ⟨fs2, hc, hst2⟩ := runOps_steps_ok (cpy_step hw hs) (planCpy (fun p => fs0.get (r ++ p)) ls) [] [] fs1
      (List.append_nil _).symm ⟨hst.inside, hst.outside⟩
    exact .inl ⟨hno, fs2, by rw [syncDest, hd, OpR.bind, hc], hst2⟩
  · exact .inr ⟨hyes, by rw [syncDest, herr, OpR.bind]⟩

/-- **No run follows a link, successful or not**: without any assumption about what the filters hide, the
destination half of a sync ends `ok` or with an `err`or — never `escape`. -/
theorem sync_never_escapes {vis : FPath → Bool} {fs0 : FS} {r : FPath} {ld : List (FPath × Node)} {src : FPath → Option SEntry}
    {ls : List (FPath × SEntry)} (hw : DestWF vis fs0 r ld) (hs : SrcWF vis src ls) :
    (∃ fs', syncDest fs0 r src ls ld = .ok fs') ∨ syncDest fs0 r src ls ld = .err := by
  rcases sync_outcome hw hs with ⟨-, fs', h, -⟩ | ⟨-, h⟩
  · exact .inl ⟨fs', h⟩
  · exact .inr h

theorem syncDest_ne_escape (hw : DestWF vis fs0 r ld) (hs : SrcWF vis src ls) : syncDest fs0 r src ls ld ≠ .escape := by
  rcases sync_never_escapes hw hs with ⟨fs', h⟩ | h <;> (rw [h]; nofun)

/-- The mirror relation at one path.  A destination file that carries the source's time is deemed up to date whatever its
bytes and is left as it is: the second alternative for a file.  A link is compared by what its text reads as. -/
def MirrorAt (fs0 fs' : FS) (r p : FPath) : Option SEntry → Prop
  | none => fs'.get (r ++ p) = none
  | some .folder => fs'.get (r ++ p) = some .folder
  | some (.file b m) =>
      fs'.get (r ++ p) = some (.file b (.at m)) ∨
      ∃ b', fs0.get (r ++ p) = some (.file b' (.at m)) ∧ fs'.get (r ++ p) = some (.file b' (.at m))
  | some (.link t) => ∃ text, fs'.get (r ++ p) = some (.symlink text) ∧ readLinkB text = t

theorem mirrorAt_written (hl : ∀ t, e = .link t → ∃ b, t = readLinkB b)
    (h : fs'.get (r ++ p) = some (written e)) : MirrorAt fs0 fs' r p (some e) := by
  cases e with
  | folder => exact h
  | file b m => exact .inl h
  | link t => obtain ⟨b, rfl⟩ := hl t rfl; exact ⟨_, h, readLinkB_roundtrip b⟩

theorem mirrorAt_upToDate (hu : upToDate e n = true)
    (h0 : fs0.get (r ++ p) = some n) (h : fs'.get (r ++ p) = some n) : MirrorAt fs0 fs' r p (some e) := by
  unfold upToDate at hu
  split at hu
  · cases of_decide_eq_true hu; exact .inr ⟨_, h0, h⟩
  · exact h
  · exact ⟨_, h, (of_decide_eq_true hu).symm⟩
  · cases hu

theorem upToDate_of_mirrorAt (h : MirrorAt fs0 fs' r p (some e)) :
    ∃ n, fs'.get (r ++ p) = some n ∧ upToDate e n = true := by
  cases e with
  | folder => exact ⟨_, h, rfl⟩
  | file b m => rcases h with h | ⟨b', -, h⟩ <;> exact ⟨_, h, by simp [upToDate]⟩
  | link t => obtain ⟨text, h1, h2⟩ := h; exact ⟨_, h1, by simp [upToDate, h2]⟩

/-- **The destination half of a sync ends in the mirror state** — for every destination tree below the doer's root
(tree-closed; listed parents first, completely as far as the filters let through), every source tree (tree-closed, listed
likewise) and every filter verdict `vis`, provided no folder the plan removes holds an entry the filters hide (`hsafe`;
without it the run fails: `C07_hidden_entry_fails_fs`): executing the plan — deletions in reverse listing order, then
creations in source listing order — never fails, never follows a link, changes nothing outside the root, leaves at every
visible relative path exactly what the source holds there (a same-time file and an equal link are left as they are) and
every hidden path as it was.  This is `sync_outcome` under `hsafe`, read path by path. -/
theorem sync_mirror {vis : FPath → Bool} {fs0 : FS} {r : FPath} {ld : List (FPath × Node)} {src : FPath → Option SEntry}
    {ls : List (FPath × SEntry)} (hw : DestWF vis fs0 r ld) (hs : SrcWF vis src ls)
    (hsafe : ∀ p c n, (p, Node.folder) ∈ planDel src ld → fs0.get (r ++ (p ++ [c])) = some n → vis (p ++ [c]) = true) :
    ∃ fs', syncDest fs0 r src ls ld = .ok fs' ∧
      (∀ q, ¬ r <+: q → fs'.get q = fs0.get q) ∧
      fs'.get r = some .folder ∧
      (∀ p, p ≠ [] → vis p = true → MirrorAt fs0 fs' r p (src p)) ∧
      (∀ p, vis p = false → fs'.get (r ++ p) = fs0.get (r ++ p)) := by
  obtain ⟨fs2, hok, hst⟩ := ((sync_outcome hw hs).resolve_right
    fun ⟨⟨x, hx, hF⟩, _⟩ => not_hiddenChild_of_safe hsafe x hx hF).2
  -- the root and what the filters hide are neither deleted nor written
  have hid : ∀ p, ¬ (p ≠ [] ∧ vis p = true) → fs2.get (r ++ p) = fs0.get (r ++ p) := fun p h => by
    rw [hst.get_of_not_mem (mt (planCpy_keys_vis hs) h), afterDels_hidden hw h]
  refine ⟨fs2, hok, hst.outside, by simpa [hw.rootFolder] using hid [] fun h => h.1 rfl, ?_, fun p hv => hid p (by simp [hv])⟩
  intro p hpne hpvis
  have hfin : fs2.get (r ++ p) =
      if ∃ e, src p = some e ∧ needCpy (fun p => fs0.get (r ++ p)) (p, e) = true then (src p).map written
      else (fs0.get (r ++ p)).filter fun n => !needDel src (p, n) := by
    simpa only [afterDels_vis hw hpne hpvis, mem_planCpy_keys hs, hpne, hpvis, ne_eq, not_false_eq_true, true_and]
      using hst.inside p
  cases hsp : src p with
  | none => cases hg : fs0.get (r ++ p) <;> simpa [hsp, hg, needDel, MirrorAt, Option.filter] using hfin
  | some e =>
    have hl : ∀ t, e = .link t → ∃ b, t = readLinkB b := fun t he => (hs.links p t (he ▸ hsp)).1
    simp only [hsp, Option.some.injEq, exists_eq_left', needCpy, needDel, Option.map_some] at hfin
    cases hg : fs0.get (r ++ p) with
    | none => exact mirrorAt_written hl (by simpa [hg] using hfin)
    | some n =>
      cases hu : upToDate e n with
      | false => exact mirrorAt_written hl (by simpa [hg, hu] using hfin)
      | true => exact mirrorAt_upToDate hu hg (by simpa [hg, hu, upToDate_compatible hu, Option.filter] using hfin)

end Rj
