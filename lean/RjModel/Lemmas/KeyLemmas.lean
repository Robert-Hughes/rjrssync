import RjModel.Model.Key
namespace Rj.Key

theorem hexVal_digit : ∀ d, d < 16 → hexVal (hexDigit d) = some d := by decide

theorem parse_fmt (bs : List Nat) (acc : Nat) (h : ∀ b ∈ bs, b < 256) :
    parseFrom acc (fmt bs) = some (fromBE acc bs) := by
  induction bs generalizing acc with
  | nil => rfl
  | cons b bs ih =>
    have hb : b < 16 * 16 := h b (List.mem_cons_self ..)
    simp only [fmt, parseFrom, hexVal_digit _ (Nat.div_lt_of_lt_mul hb), hexVal_digit _ (Nat.mod_lt b (by decide)), fromBE]
    rw [ih _ (fun x hx => h x (List.mem_cons_of_mem _ hx))]
    congr 2; omega

theorem fromBE_acc (bs : List Nat) (acc : Nat) :
    fromBE acc bs = acc * 256 ^ bs.length + fromBE 0 bs := by
  induction bs generalizing acc with
  | nil => simp [fromBE]
  | cons b bs ih =>
    simp only [fromBE, List.length_cons, Nat.zero_mul, Nat.zero_add]
    rw [ih (acc * 256 + b), ih b]
    simp only [Nat.pow_succ]
    generalize 256 ^ bs.length = P
    rw [Nat.add_mul, Nat.mul_assoc, Nat.mul_comm 256 P]; omega

theorem fromBE_lt (bs : List Nat) (h : ∀ b ∈ bs, b < 256) : fromBE 0 bs < 256 ^ bs.length := by
  induction bs with
  | nil => simp [fromBE]
  | cons b bs ih =>
    have hb : b < 256 := h b (List.mem_cons_self ..)
    have := ih (fun x hx => h x (List.mem_cons_of_mem _ hx))
    simp only [fromBE, List.length_cons]; rw [fromBE_acc]
    simp only [Nat.zero_mul, Nat.zero_add, Nat.pow_succ]
    calc b * 256 ^ bs.length + fromBE 0 bs < b * 256 ^ bs.length + 256 ^ bs.length := Nat.add_lt_add_left this _
      _ = (b + 1) * 256 ^ bs.length := (Nat.succ_mul ..).symm
      _ ≤ 256 * 256 ^ bs.length := Nat.mul_le_mul_right _ hb
      _ = 256 ^ bs.length * 256 := Nat.mul_comm ..

/-- whatever was accumulated before lies above the low `bs.length` bytes and is cut off -/
theorem toBE_fromBE (bs : List Nat) (h : ∀ b ∈ bs, b < 256) (acc : Nat) : toBE bs.length (fromBE acc bs) = bs := by
  induction bs generalizing acc with
  | nil => rfl
  | cons b bs ih =>
    have hb : b < 256 := h b (List.mem_cons_self ..)
    have hrest := fun x hx => h x (List.mem_cons_of_mem _ hx)
    simp only [List.length_cons, toBE, fromBE, ih hrest]
    rw [fromBE_acc, Nat.add_comm, Nat.add_mul_div_right _ _ (Nat.pow_pos (by decide)), Nat.div_eq_of_lt (fromBE_lt bs hrest),
      Nat.zero_add, Nat.mul_add_mod_self_right, Nat.mod_eq_of_lt hb]

end Rj.Key
