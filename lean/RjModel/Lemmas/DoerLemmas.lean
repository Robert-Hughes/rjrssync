import RjModel.Model.Doer
import RjModel.Lemmas.FSLemmas
/-! What one executed command may change (the doer's half of C02 and C12).  `exec_command` on a command that names a
path is one of two things (`execCmd_path`): the answers of a root spelled with a trailing slash and operated on itself
(`slashOp`, which touches nothing), or the command's file-system call at `root ++ path` (`pathOp`). -/
namespace Rj

variable {k : ChunkCfg} {st st' : DoerSt} {p : String} {full : FPath} {c : Cmd} {out : List Resp}

theorem reply_ok {r : OpR FS} {c : ErrClass} (h : reply st r c = .ok st' out) :
    (∃ fs', r = .ok fs' ∧ st' = { st with fs := fs' }) ∨ (r = .err ∧ st' = st) := by
  cases r with
  | ok fs' => cases h; exact .inl ⟨_, rfl, rfl⟩
  | err => cases h; exact .inr ⟨rfl, rfl⟩
  | escape => cases h

theorem reply_upd {r : OpR FS} {c : ErrClass} {p : FPath}
    (hr : ∀ fs', r = .ok fs' → Upd st.fs fs' p) (h : reply st r c = .ok st' out) : Upd st.fs st'.fs p := by
  rcases reply_ok h with ⟨fs', e, rfl⟩ | ⟨-, rfl⟩
  · exact hr fs' e
  · exact .inl rfl

theorem execCreateOrUpdate_upd {data : List UInt8} {mtime : Option Int} {more : Bool}
    (h : execCreateOrUpdate st p full data mtime more = .ok st' out) : Upd st.fs st'.fs full := by
  -- the handle: the file as it is, or created now
  have key : ∀ fs1, (match st.inProg with
      | some q => if q = p then some (OpR.ok st.fs) else none
      | none => some (st.fs.createTrunc full)) = some (.ok fs1) → Upd st.fs fs1 full := by
    intro fs1 h1
    split at h1
    · split at h1 <;> cases h1
      exact .inl rfl
    · exact .of_eq (createTrunc_ok_eq (Option.some.inj h1))
  -- the branches of `execCreateOrUpdate` in the order of its text: the result holds the file system as it was, as opened,
  -- as written, or as stamped
  revert h
  fun_cases execCreateOrUpdate st p full data mtime more
  · rintro ⟨⟩; exact .inl rfl                      -- a part of a transfer that failed earlier
  · rintro ⟨⟩; exact .inl rfl                      -- an unexpected continuation
  · nofun                                          -- `File::create` escapes
  · rintro ⟨⟩; exact .inl rfl                      -- `File::create` fails
  · nofun                                          -- `write_all` escapes
  · next h1 _ => rintro ⟨⟩; exact key _ h1         -- `write_all` fails
  · next h1 _ h2 _ => exact fun h => (XR.ok.inj h).1 ▸ (key _ h1).trans (append_upd h2)     -- written, no time to set
  · next h1 _ h2 _ _ =>                            -- written, then `set_file_mtime`
    exact fun h => ((key _ h1).trans (append_upd h2)).trans (reply_upd (fun _ => setMtime_upd) h)

theorem execSetRoot_fs {r : String} (h : execSetRoot st r = .ok st' out) : st'.fs = st.fs := by
  revert h; fun_cases execSetRoot st r <;> intro h <;> simp only [XR.ok.injEq, reduceCtorEq] at h <;> rw [← h.1]

theorem execGetFileContent_fs (h : execGetFileContent k st full = .ok st' out) : st'.fs = st.fs := by
  revert h; fun_cases execGetFileContent k st full <;> intro h <;> simp only [XR.ok.injEq, reduceCtorEq] at h <;> rw [← h.1]

theorem fullOf_prefix (h : fullOf st p = some full) :
    ∃ root sl, st.root = some (root, sl) ∧ root <+: full := by
  unfold fullOf at h
  split at h
  · next r sl cs hr hc => simp only [Option.some.injEq] at h; subst h; exact ⟨r, sl, hr, List.prefix_append _ _⟩
  · simp at h

/-- what the doer answers when its root, spelled with a trailing slash, is operated on itself ("R/") -/
def slashOp (st : DoerSt) (p : String) (full : FPath) (c : Cmd) : XR :=
  match st.fs.get full, c with
  | some (.symlink _), _ => .escape
  | some .folder, .getFileContent _ => .ok st [.error .read]
  | _, .getFileContent _ => .ok st [.error .open_]
  | _, .createOrUpdateFile _ _ _ more =>
    if st.failed = some p then .ok { st with failed := if more then st.failed else none } [.error .failedEarlier]
    else match st.inProg with
      | some q => if q = p then .escape else .ok { st with inProg := none, failed := if more then some p else none } [.error .continued]
      | none => .ok { st with failed := if more then some p else none } [.error .write]
  | _, .createSymlink .. => .ok st [.error .createSymlink]
  | _, .deleteFile _ => .ok st [.error .deleteFile]
  | _, .deleteSymlink .. => .ok st [.error .deleteSymlink]
  | _, _ => .ok st []

/-- the file-system call of a command at the path `full` it names -/
def pathOp (k : ChunkCfg) (st : DoerSt) (p : String) (full : FPath) : Cmd → XR
  | .getFileContent _ => execGetFileContent k st full
  | .createOrUpdateFile _ data mtime more => execCreateOrUpdate st p full data mtime more
  | .createFolder _ => reply st (st.fs.mkdir full) .createFolder
  | .createSymlink _ _ t => reply st (st.fs.mksymlink full (writeLinkB '/' t)) .createSymlink
  | .deleteFile _ => reply st (st.fs.unlink full) .deleteFile
  | .deleteFolder _ => reply st (st.fs.rmdir full) .deleteFolder
  | .deleteSymlink _ _ => reply st (st.fs.unlink full) .deleteSymlink
  | _ => .ok st []

theorem execCmd_path (k : ChunkCfg) (keepOf : List FilterSpec → String → Bool)
    (hp : c.path? = some p) (hr : st.root ≠ none) :
    execCmd k keepOf st c =
      match fullOf st p with
      | none => .badPath
      | some full =>
        if (st.root.map (·.2)).getD false && p == "" && st.fs.ancestors full == .ok && !c.isFolderOp then slashOp st p full c
        else pathOp k st p full c := by
  -- `rw [execCmd]` takes the catch-all equation of the definition; its side conditions say that `c` is none of the first
  -- three commands; what is left is the `match` on the root
  cases c <;> cases hp <;> rw [execCmd] <;> try (intros; contradiction)
  all_goals split <;> first | contradiction | rfl

theorem slashOp_fs (h : slashOp st p full c = .ok st' out) : st'.fs = st.fs := by
  revert h; fun_cases slashOp st p full c <;> intro h <;> simp only [XR.ok.injEq, reduceCtorEq] at h <;> rw [← h.1]

theorem pathOp_upd (h : pathOp k st p full c = .ok st' out) : Upd st.fs st'.fs full := by
  unfold pathOp at h
  split at h
  · exact .inl (execGetFileContent_fs h)
  · exact execCreateOrUpdate_upd h
  · exact reply_upd (fun _ e => .of_eq (mkdir_ok_eq e)) h
  · exact reply_upd (fun _ e => .of_eq (mksymlink_ok_eq e)) h
  · exact reply_upd (fun _ e => .of_eq (unlink_ok_eq e)) h
  · exact reply_upd (fun _ e => .of_eq ⟨(rmdir_ok_eq e).1, (rmdir_ok_eq e).2.2⟩) h
  · exact reply_upd (fun _ e => .of_eq (unlink_ok_eq e)) h
  · simp only [XR.ok.injEq] at h; exact .inl (h.1 ▸ rfl)

def ChangesOnly (st st' : DoerSt) (p : FPath) : Prop := ∀ q, q ≠ p → st'.fs.get q = st.fs.get q

/-- **What one executed command may change.**  Either nothing; or only the one path the command names
(the doer's root joined with the command's relative path); or, for `CreateRootAncestors`, missing
prefixes of the root's parent become folders. -/
theorem execCmd_effect (k : ChunkCfg) (keepOf : List FilterSpec → String → Bool) (st st' : DoerSt) (c : Cmd)
    (out : List Resp) (h : execCmd k keepOf st c = .ok st' out) :
    st'.fs = st.fs ∨
    (∃ p full, c.path? = some p ∧ fullOf st p = some full ∧ c.mutating = true ∧ ChangesOnly st st' full) ∨
    (∃ root sl, st.root = some (root, sl) ∧ c = .createRootAncestors ∧
      ∀ q, st'.fs.get q = st.fs.get q ∨ (st.fs.get q = none ∧ st'.fs.get q = some .folder ∧ q <+: root.dropLast)) := by
  cases hp : c.path? with
  | some p =>
    cases hr : st.root with
    | none => cases c <;> simp [Cmd.path?] at hp <;> simp [execCmd, hr] at h
    | some rt =>
      rw [execCmd_path k keepOf hp (by simp [hr])] at h
      split at h
      · cases h
      · next full hf =>
        split at h
        · exact .inl (slashOp_fs h)
        · by_cases hm : c.mutating = true
          · exact .inr (.inl ⟨p, full, rfl, hf, hm, (pathOp_upd h).frame⟩)
          · -- of the commands with a path only `GetFileContent` does not mutate
            cases c <;> simp [Cmd.path?, Cmd.mutating] at hp hm
            exact .inl (execGetFileContent_fs h)
  | none =>
    cases c <;> simp only [Cmd.path?, reduceCtorEq] at hp
    · exact .inl (execSetRoot_fs h)
    · -- `GetEntries`: every answer leaves the state as it is
      left
      simp only [execCmd] at h
      split at h
      · cases h
      · split at h <;> cases h <;> rfl
    · simp only [execCmd] at h
      split at h
      · simp at h
      · next root sl hr =>
        refine .inr (.inr ⟨root, sl, hr, rfl, ?_⟩)
        rcases reply_ok h with ⟨fs', e, rfl⟩ | ⟨-, rfl⟩
        · intro q; simpa using mkdirAll_frame _ _ _ _ e q
        · intro q; exact Or.inl rfl
    · left; simp only [execCmd, XR.ok.injEq] at h; rw [← h.1]
    · left; simp only [execCmd, XR.ok.injEq] at h; rw [← h.1]

theorem execCmd_local {keepOf : List FilterSpec → String → Bool} (hp : c.path? = some p)
    (h : execCmd k keepOf st c = .ok st' out) :
    st'.fs = st.fs ∨ ∃ full, fullOf st p = some full ∧ ChangesOnly st st' full := by
  rcases execCmd_effect k keepOf st st' c out h with e | ⟨p', full, hp', hf, -, hc⟩ | ⟨_, _, _, rfl, _⟩
  · exact .inl e
  · rw [hp, Option.some.injEq] at hp'; exact .inr ⟨full, hp' ▸ hf, hc⟩
  · cases hp

theorem execCmd_at (k : ChunkCfg) (keepOf : List FilterSpec → String → Bool) {r p : FPath} {ps : String}
    (hr : st.root = some (r, false)) (hp : relComps ps = some p) (hc : c.path? = some ps) :
    execCmd k keepOf st c = pathOp k st ps (r ++ p) c := by
  rw [execCmd_path k keepOf hc (by simp [hr])]
  simp [fullOf, hr, hp]

end Rj
