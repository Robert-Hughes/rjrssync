import RjModel.Lemmas.ComposeLemmas
import RjModel.Lemmas.PlanLists
/-! Helper lemmas for `C01_boss_lists_are_the_plan`: a list congruence, `pathStr` is injective on good paths, and the
string-level listing looks a path up as the component-level function does. -/
namespace Rj

theorem filterMap_flatMap_eq {α β γ : Type} {l : List α} {f : α → Option β} {g : β → List γ} {P : α → Bool} {h : α → List γ}
    (H : ∀ x ∈ l, (f x).isSome = P x ∧ ∀ y, f x = some y → g y = h x) :
    (l.filterMap f).flatMap g = (l.filter P).flatMap h := by
  induction l with
  | nil => rfl
  | cons x xs ih =>
    obtain ⟨hp, hg⟩ := H x (by simp)
    have ih' := ih (fun y hy => H y (by simp [hy]))
    cases hf : f x with
    | none => simp [hf, ← hp, ih']
    | some y => simp [hf, ← hp, hg y hf, ih']

theorem pathStr_inj {p q : FPath} (hp : GoodPath p) (hq : GoodPath q) (h : pathStr p = pathStr q) : p = q := by
  have a := relComps_pathStr p hp
  have b := relComps_pathStr q hq
  rw [h, b] at a
  exact (Option.some.inj a).symm

theorem nodup_listing {V W : Type} (l : List (FPath × V)) (g : V → W)
    (hg : ∀ x ∈ l, GoodPath x.1) (hn : (l.map (·.1)).Nodup) :
    ((l.map (fun x => (pathStr x.1, g x.2))).map (·.1)).Nodup := by
  rw [List.Nodup, List.pairwise_map] at hn
  rw [List.map_map, List.Nodup, List.pairwise_map]
  exact hn.imp_of_mem fun ha hb hne h => hne (pathStr_inj (hg _ ha) (hg _ hb) h)

theorem lookup_listing {V W : Type} (l : List (FPath × V)) (g : V → W) (fn : FPath → Option V)
    (hg : ∀ x ∈ l, GoodPath x.1) (hn : (l.map (·.1)).Nodup)
    (h1 : ∀ x ∈ l, fn x.1 = some x.2) (h2 : ∀ p v, fn p = some v → (p, v) ∈ l)
    (p : FPath) (hp : GoodPath p) :
    lookup (l.map (fun x => (pathStr x.1, g x.2))).reverse (pathStr p) = (fn p).map g := by
  have hnd : (((l.map (fun x => (pathStr x.1, g x.2))).reverse).map (·.1)).Nodup := by
    rw [List.map_reverse]
    exact (List.reverse_perm _).nodup_iff.mpr (nodup_listing l g hg hn)
  cases hf : fn p with
  | some v =>
    rw [Option.map_some, lookup_eq_some_iff _ hnd, List.mem_reverse]
    exact List.mem_map.mpr ⟨(p, v), h2 p v hf, rfl⟩
  | none =>
    refine lookup_eq_none fun hm => ?_
    simp only [List.map_reverse, List.mem_reverse, List.map_map, List.mem_map, Function.comp] at hm
    obtain ⟨x, hx, he⟩ := hm
    rw [← pathStr_inj (hg x hx) hp he, h1 x hx] at hf
    cases hf

end Rj
