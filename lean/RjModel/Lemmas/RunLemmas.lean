import RjModel.Model.Run
/-! The model of `execute_spec` on the reference skeleton, in closed form. -/
namespace Rj.Run

theorem loop_ref (outs : List Bool) (n last : Nat) :
    loop RunSkel.ref outs n last =
      (if outs.all id then (if outs = [] then last else 0) else 12,
       n + (if outs.all id then outs.length else (outs.takeWhile id).length + 1),
       !outs.all id) := by
  induction outs generalizing n last with
  | nil => simp [loop]
  | cons o rest ih =>
    cases o with
    | true =>
      simp only [loop, ↓reduceIte, ih, List.all_cons, id, Bool.true_and, List.takeWhile_cons, List.length_cons]
      by_cases h : rest.all id = true <;> simp [h] <;> omega
    | false => simp [loop, RunSkel.ref]

theorem executeSpec_ref (srcOk destOk : Bool) (outs : List Bool) :
    executeSpec RunSkel.ref srcOk destOk outs =
      if srcOk = false then ⟨10, 0, 0, 0, false, false⟩
      else if destOk = false then ⟨11, 0, 1, 0, true, false⟩
      else ⟨if outs.all id then 0 else 12, if outs.all id then outs.length else (outs.takeWhile id).length + 1,
        1, 1, true, true⟩ := by
  unfold executeSpec
  cases srcOk <;> cases destOk <;> simp only [loop_ref outs 0 0] <;> cases outs.all id <;> simp [RunSkel.ref]

end Rj.Run
