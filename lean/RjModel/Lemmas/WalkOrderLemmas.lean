import RjModel.Lemmas.SyncLemmas
import RjModel.Model.ParseDoer
/-! The listing in the order of the real walk (`listBelow` of `Model/ParseDoer.lean`: by depth, by insertion sort) also meets
the listing assumptions `DestWF`; every call of a phase keeps the representation invariant `FS.Wf`. -/
namespace Rj

theorem perm_insertByLen {α : Type} (x : FPath × α) (l : List (FPath × α)) : (insertByLen x l).Perm (x :: l) := by
  induction l with
  | nil => exact .refl _
  | cons y ys ih =>
    simp only [insertByLen]
    split
    · exact .refl _
    · exact (ih.cons y).trans (.swap x y ys)

theorem sorted_insertByLen {α : Type} (x : FPath × α) (l : List (FPath × α))
    (h : l.Pairwise (fun a b => a.1.length ≤ b.1.length)) :
    (insertByLen x l).Pairwise (fun a b => a.1.length ≤ b.1.length) := by
  induction l with
  | nil => simp [insertByLen]
  | cons z zs ih =>
    simp only [insertByLen]
    rw [List.pairwise_cons] at h
    split
    next hle =>
      refine List.pairwise_cons.mpr ⟨fun b hb => ?_, List.pairwise_cons.mpr h⟩
      rcases List.mem_cons.mp hb with rfl | hb'
      · exact hle
      · exact Nat.le_trans hle (h.1 b hb')
    next hgt =>
      refine List.pairwise_cons.mpr ⟨fun b hb => ?_, ih h.2⟩
      rcases List.mem_cons.mp ((perm_insertByLen x zs).mem_iff.mp hb) with rfl | hb'
      · omega
      · exact h.1 b hb'

theorem foldr_insertByLen {α : Type} (l : List (FPath × α)) :
    (l.foldr insertByLen []).Perm l ∧ (l.foldr insertByLen []).Pairwise (fun a b => a.1.length ≤ b.1.length) := by
  induction l with
  | nil => exact ⟨.refl _, .nil⟩
  | cons x xs ih => exact ⟨(perm_insertByLen x _).trans (ih.1.cons x), sorted_insertByLen x _ ih.2⟩

/-- **The listing by depth (`listBelow`, the order of the real walk) satisfies the assumptions of `sync_mirror`**: it holds
exactly the entries below the root and lists parents first — so the theorems speak about the objects of the `syncdest` /
`syncprefixes` driver commands as well. -/
theorem destWF_of_listBelow (fs : FS) (hw : fs.Wf) (r : FPath) (ht : TreeBelow fs r) :
    DestWF (fun _ => true) fs r (listBelow fs r) := by
  unfold listBelow
  have hg : ∀ (e b : FPath × Node), (if r <+: e.1 ∧ e.1 ≠ r then some (e.1.drop r.length, e.2) else none) = some b →
      b.1 ≠ [] ∧ e = (r ++ b.1, b.2) := by
    intro e b h
    split at h
    · next hc =>
      obtain ⟨⟨t, ht⟩, hne⟩ := hc
      cases h
      rw [← ht, List.drop_left]
      exact ⟨by rintro rfl; exact hne (by simpa using ht.symm), by rw [ht]⟩
    · cases h
  generalize hM : (fs.nodes.filterMap fun e =>
    if r <+: e.1 ∧ e.1 ≠ r then some (e.1.drop r.length, e.2) else none) = M
  have hmem : ∀ p n, (p, n) ∈ M ↔ (p ≠ [] ∧ fs.get (r ++ p) = some n) := by
    intro p n
    simp only [← hM, List.mem_filterMap]
    constructor
    · rintro ⟨e, he, hmap⟩
      obtain ⟨hp, rfl⟩ := hg e _ hmap
      exact ⟨hp, hw.get_of_mem (by simp [hp]) he⟩
    · rintro ⟨hp, hg⟩
      exact ⟨(r ++ p, n), FS.mem_of_get (by simp [hp]) hg, by simp [hp]⟩
  have hkeys : M.Pairwise (fun a b => a.1 ≠ b.1) := by
    rw [← hM]
    refine List.Pairwise.filterMap _ (fun a a' hne b hb b' hb' e => hne ?_) (List.pairwise_map.mp hw)
    rw [(hg a b hb).2, (hg a' b' hb').2, e]
  obtain ⟨hperm, hsorted⟩ := foldr_insertByLen M
  refine ⟨ht.1, ht.2.1, ht.2.2, fun p n => by rw [hperm.mem_iff, hmem]; simp, ?_⟩
  -- sorted by length, keys distinct: nothing later is a prefix of something earlier
  have hk : (M.foldr insertByLen []).Pairwise (fun a b => a.1 ≠ b.1) :=
    List.pairwise_map.mp ((hperm.map _).nodup_iff.mpr (List.pairwise_map.mpr hkeys))
  refine (hsorted.and hk).imp ?_
  rintro a b ⟨hle, hne⟩ hpre
  exact hne (List.IsPrefix.eq_of_length_le hpre hle).symm

theorem Wf_runDels {r : FPath} (todo : List (FPath × Node)) (fs fs' : FS) (hw : fs.Wf)
    (h : runOps (fun f x => delOp f r x) fs todo = .ok fs') : fs'.Wf :=
  runOps_preserves (fun hw h => (Upd.of_eq (delOp_ok_eq h)).wf hw) hw h

theorem Wf_runCpys {r : FPath} (todo : List (FPath × SEntry)) (fs fs' : FS) (hw : fs.Wf)
    (h : runOps (fun f x => cpyOp f r x) fs todo = .ok fs') : fs'.Wf :=
  runOps_preserves (fun hw h => (cpyOp_upd h).wf hw) hw h

end Rj
