import RjModel.Model.LinkText
import RjModel.Generated.TryFrom
/-! The loop of `RootRelativePath::try_from` (translated: `Generated.tryFromSrc`) joins the components with single
slashes - the model's `joinSlash`. -/
namespace Rj
open Generated

/-- a component as `Path::iter` yields it below a root: not empty, without either slash -/
def GoodC (c : List Char) : Prop := c ≠ [] ∧ '/' ∉ c ∧ '\\' ∉ c

/-- with a non-empty accumulator the loop appends: the accumulator behaves as a first component -/
theorem tryFrom_fold_good (comps : List (List Char)) (h : ∀ c ∈ comps, GoodC c) (acc : List Char) (ha : acc ≠ []) :
    comps.foldlM tryFromStepSrc acc = some (joinSlash (acc :: comps)) := by
  induction comps generalizing acc with
  | nil => rfl
  | cons c rest ih =>
    have hc := h c (by simp)
    have hstep : tryFromStepSrc acc c = some (acc ++ '/' :: c) := by simp [tryFromStepSrc, hc.2.1, hc.2.2, ha]
    rw [List.foldlM_cons, hstep, Option.bind_eq_bind, Option.bind_some, ih (fun x hx => h x (by simp [hx])) _ (by simp)]
    cases rest <;> simp [joinSlash]

theorem tryFrom_good (comps : List (List Char)) (h : ∀ c ∈ comps, GoodC c) : tryFromSrc comps = some (joinSlash comps) := by
  cases comps with
  | nil => rfl
  | cons c rest =>
    have hc := h c (by simp)
    have hstep : tryFromStepSrc [] c = some c := by simp [tryFromStepSrc, hc.2.1, hc.2.2]
    rw [tryFromSrc, List.foldlM_cons, hstep, Option.bind_eq_bind, Option.bind_some,
      tryFrom_fold_good rest (fun x hx => h x (by simp [hx])) c hc.1]

theorem tryFrom_refuses (pre : List (List Char)) (c : List Char) (post : List (List Char)) (hpre : ∀ x ∈ pre, GoodC x)
    (hc : '/' ∈ c ∨ '\\' ∈ c) : tryFromSrc (pre ++ c :: post) = none := by
  have hstep : ∀ acc, tryFromStepSrc acc c = none := by
    intro acc; rcases hc with h | h <;> simp [tryFromStepSrc, h]
  have := tryFrom_good pre hpre
  unfold tryFromSrc at this ⊢
  rw [List.foldlM_append, this]; simp [hstep]

end Rj
