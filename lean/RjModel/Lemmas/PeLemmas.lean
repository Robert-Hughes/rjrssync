import RjModel.Lemmas.ByteLemmas
/-! `add_section_to_pe` / `extract_section_from_pe` on `ValidPe` images, by the same three moves as ELF (`Lemmas/ExeLemmas.lean`):
the run in closed form (`addPe_eq`), what each window of a vector of that form holds (`peOut_view`, `addPe_spec`), and what the
extraction returns on any image (`extractPe_found`).  The bounds of the run come from the lemmas of the namespace `ValidPe`,
each proved once. -/
namespace Rj.Exe

/-- the sizes of a PE image are 32-bit quantities, the offsets of the run 64-bit ones -/
theorem lt_U64 {x : Nat} (h : x < U32) : x < U64 := Nat.lt_trans h (by decide)

theorem validatePe_eq (b : Bytes) (h1 : 0x40 ≤ pSig b) (h2 : pFh b ≤ b.length) (hU : b.length < U64)
    (h3 : leVal (slice b (pSig b) 4) = 0x00004550) : validatePe b = .ok (pFh b) := by
  unfold validatePe
  -- `let sigOff ← readField b 0x3c 4`
  rewrite [readField_val (v := pSig b) h1 (Nat.le_of_add_right_le h2) hU rfl, bind_ok]
  -- `let sig ← readField b sigOff 4; if sig ≠ 0x00004550 then .err else add U64 sigOff 4`
  rewrite [readField_val (Nat.le_refl _) h2 hU h3, bind_ok, if_neg (fun h => h rfl), add_ok (Nat.lt_of_le_of_lt h2 hU)]
  rfl

/-! ### The layout of a `ValidPe` image, as the inequalities the run needs: the file header and the 64 bytes of the optional header
that are read lie in front of the section table, the table ends at `pEnd b` inside the file; the sizes stay below 2^32. -/
namespace ValidPe
variable {b name payload : Bytes} (v : ValidPe b name payload)
include v

theorem hdrs_ge : pFh b + 84 ≤ pHdrs b := Nat.add_le_add_left v.hopt (pFh b + 20)

theorem fh_le : pFh b + 84 ≤ pEnd b := Nat.le_trans v.hdrs_ge (Nat.le_add_right _ _)

theorem opt_le : pFh b + 20 + 64 ≤ pEnd b := v.fh_le

theorem last_le : pHdrs b + (pNum b - 1) * 40 + 40 ≤ pEnd b := by
  have := v.hnum1
  show _ ≤ pHdrs b + pNum b * 40
  omega

theorem end_pos : 1 ≤ pEnd b := Nat.le_trans (Nat.le_trans (by decide : 1 ≤ 84) (Nat.le_add_left _ _)) v.fh_le

theorem end_le : pEnd b ≤ b.length := Nat.le_of_add_right_le v.hend

/-- after the make-room step the new header fits behind the section table -/
theorem room : pEnd b + 40 ≤ b.length + pBump b := by
  have hend := v.hend
  unfold pBump
  split
  · have := (alignUp_bounds (x := 40 - pGap b) (by omega) v.hfa).1
    omega
  · omega

theorem len_lt : b.length + pBump b + pFileAlign b < U32 := by have := v.hsize; omega

/-- the image with room made is padded to the file alignment -/
theorem pad : b.length + pBump b ≤ alignUp (b.length + pBump b) (pFileAlign b) ∧
    alignUp (b.length + pBump b) (pFileAlign b) < b.length + pBump b + pFileAlign b :=
  alignUp_bounds (Nat.le_trans v.end_pos (Nat.le_trans v.end_le (Nat.le_add_right _ _))) v.hfa

theorem room_lt : pEnd b + 40 + pFileAlign b < U32 := Nat.lt_of_le_of_lt (Nat.add_le_add_right v.room _) v.len_lt

theorem pl_lt : payload.length + pFileAlign b < U32 := by have := v.hsize; omega

theorem va_lt : pPrevVa b + pPrevVs b + pSecAlign b + pSecAlign b < U32 := by have := v.hva; omega

theorem out_lt : alignUp (b.length + pBump b) (pFileAlign b) + alignUp payload.length (pFileAlign b) < U32 := by
  have := v.hsize
  have := v.pad.2
  have := (alignUp_bounds v.hpl v.hfa).2
  omega

end ValidPe

theorem bumpPointers_step (t : Bytes) (hdrs fa n i : Nat) (hw : hdrs + i * 40 + 20 + 4 ≤ t.length) (hU : t.length < U64)
    (hv : leVal (slice t (hdrs + i * 40 + 20) 4) + fa < U32) :
    bumpPointers t hdrs fa (n + 1) i =
      bumpPointers (patch t (hdrs + i * 40 + 20) (leBytes 4 (leVal (slice t (hdrs + i * 40 + 20) 4) + fa))) hdrs fa n (i + 1) := by
  -- `let h ← add U64 hdrs (idx * 40)`
  rewrite [bumpPointers, add_le (Nat.le_of_add_right_le (Nat.le_of_add_right_le hw)) hU]
  -- `let po ← add U64 h 20; let orig ← readField b po 4`
  rewrite [readAt hw (Nat.le_refl _) hU rfl]
  -- `let nw ← add U32 orig fileAlign; let b ← writeField b po 4 nw`
  rw [add_bind hv, writeField_bind rfl hw hU]

/-- the loop that moves the raw-data pointers of the existing sections: it succeeds, keeps the length, adds `fa` to exactly
the 4-byte `PointerToRawData` fields of the sections `start ≤ idx < start + n` and leaves every other byte alone -/
theorem bumpPointers_spec (hdrs fa : Nat) (n : Nat) : ∀ (t : Bytes) (start : Nat),
    t.length < U64 →
    (∀ idx, start ≤ idx → idx < start + n →
        hdrs + idx * 40 + 24 ≤ t.length ∧ leVal (slice t (hdrs + idx * 40 + 20) 4) + fa < U32) →
    ∃ t', bumpPointers t hdrs fa n start = .ok t' ∧ t'.length = t.length ∧
      (∀ j, (∀ idx, start ≤ idx → idx < start + n → ¬ (hdrs + idx * 40 + 20 ≤ j ∧ j < hdrs + idx * 40 + 24)) → t'[j]? = t[j]?) ∧
      (∀ idx, start ≤ idx → idx < start + n →
        leVal (slice t' (hdrs + idx * 40 + 20) 4) = leVal (slice t (hdrs + idx * 40 + 20) 4) + fa) := by
  intro t start hU hin
  obtain ⟨t', he, hl, hf, hv⟩ := fieldLoop_spec (fun t n i => bumpPointers t hdrs fa n i) (fun i => hdrs + i * 40 + 20) 4 fa U32
    (fun _ _ => True) (by decide) (fun i j h => by omega) (fun _ _ => rfl)
    (fun t n i hw hU hv => (bumpPointers_step t hdrs fa n i hw hU hv).trans (by rw [if_pos trivial])) n t start hU hin
  exact ⟨t', he, hl, fun j hj => hf j fun idx h1 h2 _ => hj idx h1 h2, fun idx h1 h2 => (hv idx h1 h2).trans (if_pos trivial)⟩

/-- the step of `add_section_to_pe` that makes room for the new header: when the gap behind the section table is too small,
whole file alignments of zeros are inserted there and every section's raw-data pointer moves up by as much -/
theorem peMakeRoom {b1 : Bytes} {hdrs num e fa gap bump : Nat} (hfa : 1 ≤ fa)
    (hbump : bump = if gap < 40 then alignUp (40 - gap) fa else 0) (hE : hdrs + num * 40 = e)
    (he : e ≤ b1.length) (hU : b1.length + bump + fa < U32)
    (hptr : ∀ i, i < num → leVal (slice b1 (hdrs + i * 40 + 20) 4) + bump < U32) :
    ∃ b2, (if gap < 40 then (do
          let need ← sub 40 gap
          let bump ← align U64 need fa
          let b' ← spliceAt b1 e (zeros bump)
          bumpPointers b' hdrs (bump % U32) num 0) else R.ok b1) = .ok b2 ∧
      b2.length = b1.length + bump ∧
      (∀ j, j < e → (∀ i, i < num → ¬ (hdrs + i * 40 + 20 ≤ j ∧ j < hdrs + i * 40 + 24)) → b2[j]? = b1[j]?) ∧
      (∀ j, e ≤ j → b2[j + bump]? = b1[j]?) ∧
      (∀ i, i < num → leVal (slice b2 (hdrs + i * 40 + 20) 4) = leVal (slice b1 (hdrs + i * 40 + 20) 4) + bump) := by
  subst hE
  split at hbump
  · next hg =>
    -- `let need ← sub 40 gap; let bump ← align U64 need fa`
    have hpos : 1 ≤ 40 - gap := Nat.sub_pos_of_lt hg
    have hbb := alignUp_bounds hpos hfa
    rw [← hbump] at hbb
    have hneed : 40 - gap + fa < U32 := Nat.lt_of_le_of_lt (Nat.add_le_add_right (Nat.le_trans hbb.1 (Nat.le_add_left _ _)) _) hU
    rewrite [if_pos hg, sub_ok (Nat.le_of_lt hg), bind_ok, align_eq U64 _ _ hpos hfa (lt_U64 hneed), bind_ok, ← hbump]
    -- `let b' ← spliceAt b1 e (zeros bump)`: the image `s`, which reads as `b1` in front of `e` (`hlo`) and behind it (`hhi`)
    have hb32 : bump < U32 := Nat.lt_of_le_of_lt (Nat.le_add_left _ _) (Nat.lt_of_add_right_lt hU)
    have hz := length_zeros bump
    have hls := length_splice hz he
    have hlo := fun j (hj : j < hdrs + num * 40) => getElem?_splice_lt (zeros bump) hj he
    have hhi := fun j (hj : hdrs + num * 40 ≤ j) => getElem?_splice_ge hz hj he
    rewrite [spliceAt_ok he, bind_ok, Nat.mod_eq_of_lt hb32]
    generalize b1.take _ ++ _ ++ _ = s at hls hlo hhi ⊢
    clear hpos hbb hneed hb32 -- out of the sight of the `omega` calls below
    -- `bumpPointers b' hdrs (bump % U32) num 0`
    have hsl : ∀ i, i < num → slice s (hdrs + i * 40 + 20) 4 = slice b1 (hdrs + i * 40 + 20) 4 := fun i hi =>
      slice_congr _ _ _ _ _ fun k hk => hlo _ (by omega)
    obtain ⟨t', he', hlt, hfr, hvalp⟩ := bumpPointers_spec hdrs bump num s 0
      (hls ▸ lt_U64 (Nat.lt_of_add_right_lt hU)) fun i _ h2 =>
      ⟨by omega, by rw [hsl i (Nat.zero_add num ▸ h2)]; exact hptr i (Nat.zero_add num ▸ h2)⟩
    rw [Nat.zero_add] at hfr hvalp
    refine ⟨t', he', hlt.trans hls, fun j hj hw => ?_, fun j hj => ?_, fun i hi => ?_⟩
    · rw [hfr j fun i _ h2 => hw i h2, hlo j hj]
    · rw [hfr _ fun i _ h2 => by omega, hhi j hj]
    · rw [hvalp i (Nat.zero_le _) hi, hsl i hi]
  · next hg =>
    subst hbump
    exact ⟨b1, if_neg hg, rfl, fun _ _ _ => rfl, fun _ _ => rfl, fun _ _ => rfl⟩

def peHdr (name : Bytes) (newVa rawSize : Nat) : Bytes :=
  patch (patch (patch (patch (name ++ zeros (40 - name.length)) 8 (leBytes 4 1)) 12 (leBytes 4 newVa)) 16 (leBytes 4 rawSize)) 36 (leBytes 4 0x40)

/-- the new section header: its name field, `SizeOfRawData`, its length -/
theorem slice_peHdr (name : Bytes) (newVa rawSize : Nat) (hl : name.length ≤ 8) :
    slice (peHdr name newVa rawSize) 0 8 = name ++ zeros (8 - name.length) ∧
    slice (peHdr name newVa rawSize) 16 4 = leBytes 4 rawSize ∧ (peHdr name newVa rawSize).length = 40 := by
  have b4 := length_leBytes 4
  have l0 : (name ++ zeros (40 - name.length)).length = 40 := length_pad rfl (Nat.le_trans hl (by decide))
  have l1 := length_patch_of l0 (b4 1) (by decide : 8 + 4 ≤ 40)
  have l2 := length_patch_of l1 (b4 newVa) (by decide : 12 + 4 ≤ 40)
  have l3 := length_patch_of l2 (b4 rawSize) (by decide : 16 + 4 ≤ 40)
  have hx : (name ++ zeros (8 - name.length)).length = 8 := length_pad rfl hl
  have hsplit : name ++ zeros (40 - name.length) = name ++ zeros (8 - name.length) ++ zeros 32 := by
    rw [List.append_assoc, zeros, zeros, zeros, List.replicate_append_replicate]
    exact congrArg (name ++ List.replicate · 0) (by omega)
  unfold peHdr
  refine ⟨?_, ?_, length_patch_of l3 (b4 _) (by decide)⟩
  · rw [slice_patch_disjoint_of l3 (b4 _) (by decide) (.inl (by decide)),
      slice_patch_disjoint_of l2 (b4 _) (by decide) (.inl (by decide)),
      slice_patch_disjoint_of l1 (b4 _) (by decide) (.inl (by decide)),
      slice_patch_disjoint_of l0 (b4 _) (by decide) (.inl (by decide)), hsplit,
      slice_append_left (o := 0) (n := 8) (Nat.le_of_eq hx.symm)]
    exact (congrArg (slice _ 0) hx.symm).trans (slice_full _)
  · rw [slice_patch_disjoint_of l3 (b4 _) (by decide) (.inl (by decide))]
    exact slice_patch_same_of l2 (b4 _) (by decide)

theorem addPe_eq (b name payload : Bytes) (v : ValidPe b name payload) :
    ∃ b2 img nh,
      b2.length = b.length + pBump b ∧
      (∀ j, j < pEnd b → (∀ i, i < pNum b → ¬ (pHdrs b + i * 40 + 20 ≤ j ∧ j < pHdrs b + i * 40 + 24)) →
          b2[j]? = (patch b (pFh b + 2) (leBytes 2 (pNum b + 1)))[j]?) ∧
      (∀ j, pEnd b ≤ j → b2[j + pBump b]? = b[j]?) ∧
      (∀ i, i < pNum b → leVal (slice b2 (pHdrs b + i * 40 + 20) 4) = leVal (slice b (pHdrs b + i * 40 + 20) 4) + pBump b) ∧
      addPe b name payload = .ok
        (patch (patch (patch
          ((patch b2 (pEnd b) (peHdr name (alignUp (pPrevVa b + pPrevVs b) (pSecAlign b)) (alignUp payload.length (pFileAlign b)))) ++
            zeros (alignUp (b.length + pBump b) (pFileAlign b) - (b.length + pBump b)) ++
            (payload ++ zeros (alignUp payload.length (pFileAlign b) - payload.length)))
          (pEnd b + 20) (leBytes 4 (alignUp (b.length + pBump b) (pFileAlign b))))
          (pOpt b + 56) (leBytes 4 img)) (pOpt b + 60) (leBytes 4 nh)) := by
  have hL : pEnd b ≤ b.length := v.end_le
  have hU : b.length < U64 := lt_U64 (Nat.lt_of_add_right_lt (Nat.lt_of_add_right_lt v.len_lt))
  have hE : pEnd b < U64 := Nat.lt_of_le_of_lt hL hU
  -- `b1`, the image with the new section count: behind the count it reads as `b`
  have hb2 := length_leBytes 2 (pNum b + 1)
  have hw1 : pFh b + 2 + 2 ≤ b.length := Nat.le_trans (within v.fh_le (by decide)) hL
  generalize hb1 : patch b (pFh b + 2) (leBytes 2 (pNum b + 1)) = b1
  have hl1 : b1.length = b.length := hb1 ▸ length_patch_of rfl hb2 hw1
  have hv1 : ∀ o n, pFh b + 4 ≤ o → leVal (slice b1 o n) = leVal (slice b o n) := fun o n h =>
    congrArg leVal (hb1 ▸ slice_patch_disjoint_of rfl hb2 hw1 (.inr h))
  have hL1 : pEnd b ≤ b1.length := hl1 ▸ hL
  have hU1 : b1.length < U64 := hl1 ▸ hU
  -- `b2`, the image with room made for the new header; the first four claims are about it
  have hge : ∀ i k, pFh b + 4 ≤ pHdrs b + i * 40 + k := fun i k =>
    Nat.le_trans (Nat.le_trans (below v.hdrs_ge (by decide)) (Nat.le_add_right _ _)) (Nat.le_add_right _ _)
  obtain ⟨b2, hmr, hl2, hf1, hf2, hf3⟩ := peMakeRoom (b1 := b1) (e := pEnd b) (gap := pGap b) (bump := pBump b) v.hfa rfl rfl
    hL1 (hl1 ▸ v.len_lt) (fun i hi => by rw [hv1 _ _ (hge i 20)]; exact v.hptr i hi)
  rw [hl1] at hl2
  refine ⟨b2, alignUp (alignUp (pPrevVa b + pPrevVs b) (pSecAlign b) + 1) (pSecAlign b), alignUp (pEnd b + 40) (pFileAlign b),
    hl2, hf1, fun j hj => ?_, fun i hi => ?_, ?_⟩
  · rw [hf2 j hj, ← hb1, getElem?_patch_outside rfl hb2 hw1 (outside_ge (Nat.le_trans (within v.fh_le (by decide)) hj))]
  · rw [hf3 i hi, hv1 _ _ (hge i 20)]
  -- The run.  `rewrite` finds its terms as they are spelled: `pFh b + 20` stays (the last `rfl` sees through `pOpt`), `pHdrs b` and
  -- `pEnd b` are folded where `hmr` and the layout lemmas name them.  What is read up to `endHdrs` lies in the file header and the
  -- first 64 bytes of the optional header, in front of `pEnd b` (`v.fh_le`, `v.opt_le`).
  unfold addPe
  -- `let fh ← validatePe b`
  have hfh : pFh b ≤ b.length := Nat.le_of_add_right_le (Nat.le_trans v.fh_le hL)
  rewrite [validatePe_eq b v.hsig0 hfh hU v.hsig, bind_ok]
  -- `let numOff ← add U64 fh 2; let num ← readField b numOff 2; let newNum ← add U16 num 1; let b ← writeField b numOff 2 newNum`
  rewrite [readAt (v := pNum b) (within v.fh_le (by decide)) hL hU rfl, add_bind v.hnum, writeField_bind rfl hw1 hU, hb1]
  -- `let o ← add U64 fh 16; let optSize ← readField b o 2; let opt ← add U64 fh 20`
  rewrite [readAt (v := pOptSize b) (within v.fh_le (by decide)) hL1 hU1 (hv1 _ _ (Nat.add_le_add_left (by decide) _)),
    add_le (below v.fh_le (by decide)) hE]
  -- `let o ← add U64 opt 32; let secAlign ← readField b o 4; let o ← add U64 opt 36; let fileAlign ← readField b o 4`
  have hopt : ∀ c, pFh b + 4 ≤ pFh b + 20 + c := fun c => Nat.le_trans (Nat.add_le_add_left (by decide) _) (Nat.le_add_right _ _)
  rewrite [readAt (v := pSecAlign b) (within v.opt_le (by decide)) hL1 hU1 (hv1 _ _ (hopt _)),
    readAt (v := pFileAlign b) (within v.opt_le (by decide)) hL1 hU1 (hv1 _ _ (hopt _))]
  -- `let hdrs ← add U64 opt optSize; let endHdrs ← add U64 hdrs (num * 40)`
  rewrite [add_le (show pFh b + 20 + pOptSize b ≤ pEnd b from Nat.le_add_right _ _) hE, show pFh b + 20 + pOptSize b = pHdrs b from rfl,
    add_le (Nat.le_refl _ : _ ≤ pEnd b) hE, show pHdrs b + pNum b * 40 = pEnd b from rfl]
  -- `let al ← align U64 endHdrs fileAlign; let gap ← sub al endHdrs`
  have hal : pEnd b + pFileAlign b < U64 := lt_U64 (Nat.lt_of_le_of_lt (Nat.add_le_add_right (Nat.le_add_right _ 40) _) v.room_lt)
  rewrite [align_eq U64 _ _ v.end_pos v.hfa hal, bind_ok, sub_ok (alignUp_bounds v.end_pos v.hfa).1, bind_ok,
    show alignUp (pEnd b) (pFileAlign b) - pEnd b = pGap b from rfl]
  -- `let b ← (if gap < 40 then … else .ok b)`, the step of `peMakeRoom`; `if name.length > 8 then .panic`
  rewrite [hmr, bind_ok, if_neg (Nat.not_lt.2 v.hnamelen)]
  dsimp only
  clear hmr hl1 hL1 hU1 hw1 hb2 hf2 hf3 hopt hal hfh
  -- `let hdr := name ++ zeros (40 - name.length); let hdr ← writeField hdr 8 4 1`
  have h40 : 40 < U64 := by decide
  have hp0 : (name ++ zeros (40 - name.length)).length = 40 := length_pad rfl (Nat.le_trans v.hnamelen (by decide))
  rewrite [writeField_bind hp0 (by decide) h40]
  -- `let nm1 ← sub num 1; let t ← mul U64 nm1 40; let t ← add U64 hdrs t`: the last section header
  have hlast : pHdrs b + (pNum b - 1) * 40 ≤ pEnd b := Nat.le_of_add_right_le v.last_le
  rewrite [sub_ok v.hnum1, bind_ok, mul_ok (Nat.lt_of_le_of_lt (Nat.le_trans (Nat.le_add_left _ _) hlast) hE), bind_ok, add_le hlast hE]
  -- `let vaOff ← add U64 t 12; let prevVa ← readField b vaOff 4; let vsOff ← add U64 t 8; let prevVs ← readField b vsOff 4`:
  -- these eight bytes of `b2` are those of `b`
  have hL2 : pEnd b + 40 ≤ b2.length := Nat.le_trans v.room (Nat.le_of_eq hl2.symm)
  have hE2 : pEnd b ≤ b2.length := Nat.le_of_add_right_le hL2
  have hU2 : b2.length < U64 := Nat.lt_of_le_of_lt (Nat.le_of_eq hl2) (lt_U64 (Nat.lt_of_add_right_lt v.len_lt))
  have hlo : ∀ o, 8 ≤ o → o + 4 ≤ 16 →
      leVal (slice b2 (pHdrs b + (pNum b - 1) * 40 + o) 4) = leVal (slice b (pHdrs b + (pNum b - 1) * 40 + o) 4) := fun o h h' => by
      rw [← hv1 _ _ (hge _ o)]
      exact congrArg leVal (slice_congr _ _ _ _ _ fun k hk => hf1 _ (by have := v.last_le; omega) fun i hi => by omega)
  rewrite [readAt (v := pPrevVa b) (within v.last_le (by decide)) hE2 hU2 (hlo 12 (by decide) (by decide)),
    readAt (v := pPrevVs b) (within v.last_le (by decide)) hE2 hU2 (hlo 8 (by decide) (by decide))]
  -- `let s ← add U32 prevVa prevVs; let newVa ← align U32 s secAlign; let hdr ← writeField hdr 12 4 newVa`
  have hva : pPrevVa b + pPrevVs b + pSecAlign b < U32 := Nat.lt_of_add_right_lt v.va_lt
  have hp1 := length_patch_of hp0 (length_leBytes 4 1) (by decide : 8 + 4 ≤ 40)
  rewrite [add_bind (Nat.lt_of_add_right_lt hva), align_eq U32 _ _ v.hva1 v.hsa hva, bind_ok, writeField_bind hp1 (by decide) h40]
  -- `let rawSize ← align U32 (payload.length % U32) fileAlign; let hdr ← writeField hdr 16 4 rawSize`, and `0x40` at 36
  have hp2 := fun x => length_patch_of hp1 (length_leBytes 4 x) (by decide : 12 + 4 ≤ 40)
  have hp3 := fun x y => length_patch_of (hp2 x) (length_leBytes 4 y) (by decide : 16 + 4 ≤ 40)
  rewrite [Nat.mod_eq_of_lt (Nat.lt_of_add_right_lt v.pl_lt), align_eq U32 _ _ v.hpl v.hfa v.pl_lt, bind_ok,
    writeField_bind (hp2 _) (by decide) h40, writeField_bind (hp3 _ _) (by decide) h40, ← peHdr]
  -- `let newHdrOff ← add U64 hdrs (num * 40); let e ← add U64 newHdrOff 40; if e > b.length then .panic`
  rewrite [add_le (Nat.le_refl _ : _ ≤ pEnd b) hE, show pHdrs b + pNum b * 40 = pEnd b from rfl, add_le hL2 hU2, if_neg (Nat.not_lt.2 hL2)]
  -- `let b := b.take newHdrOff ++ hdr ++ b.drop e; let newSecOff ← align U64 b.length fileAlign`
  have hH :=
    (slice_peHdr name (alignUp (pPrevVa b + pPrevVs b) (pSecAlign b)) (alignUp payload.length (pFileAlign b)) v.hnamelen).2.2
  have h1L : 1 ≤ b.length + pBump b := Nat.le_trans v.end_pos (Nat.le_trans hL (Nat.le_add_right _ _))
  rewrite [take_append_drop_eq_patch hH, length_patch_of hl2 hH v.room, align_eq U64 _ _ h1L v.hfa (lt_U64 v.len_lt), bind_ok]
  -- `let data := if payload.length ≤ rawSize then payload ++ zeros (rawSize - payload.length) else …`; `x`, the vector with the
  -- header, the padding and the data: the three fields written last lie in its old part, in front of `pEnd b + 40`
  have hrs := alignUp_bounds v.hpl v.hfa
  have hso := v.pad
  rewrite [if_pos hrs.1]
  clear hp0 hp1 hp2 hp3 hlo hlast hE2 h1L
  generalize hx : patch b2 _ _ ++ _ ++ _ = x
  have hlx : x.length = alignUp (b.length + pBump b) (pFileAlign b) + alignUp payload.length (pFileAlign b) := by
    rw [← hx, List.length_append, length_pad (length_patch_of hl2 hH v.room) hso.1, length_pad rfl hrs.1]
  have hEx : pEnd b + 40 ≤ x.length :=
    Nat.le_trans (Nat.le_trans v.room hso.1) (Nat.le_trans (Nat.le_add_right _ _) (Nat.le_of_eq hlx.symm))
  have hUx : x.length < U64 := Nat.lt_of_le_of_lt (Nat.le_of_eq hlx) (lt_U64 v.out_lt)
  have hq : ∀ c, c + 4 ≤ 64 → pFh b + 20 + c + 4 ≤ x.length := fun c hc =>
    Nat.le_trans (within v.opt_le hc) (Nat.le_of_add_right_le hEx)
  -- `let o ← add U64 newHdrOff 20; let b ← writeField b o 4 (newSecOff % U32)`
  have hw5 : pEnd b + 20 + 4 ≤ x.length := Nat.le_trans (within (Nat.le_refl (pEnd b + 40)) (by decide)) hEx
  rewrite [add_le (below hL2 (by decide)) hU2, Nat.mod_eq_of_lt (Nat.lt_trans hso.2 v.len_lt), writeField_bind rfl hw5 hUx]
  -- `let soi ← add U64 opt 56; let img ← add U32 newVa 1; let img ← align U32 img secAlign; let b ← writeField b soi 4 img`
  have himg : alignUp (pPrevVa b + pPrevVs b) (pSecAlign b) + 1 + pSecAlign b < U32 :=
    Nat.lt_of_le_of_lt (Nat.add_le_add_right (alignUp_bounds v.hva1 v.hsa).2 _) v.va_lt
  have hl5 := fun y => length_patch_of rfl (length_leBytes 4 y) hw5
  rewrite [add_le (below v.opt_le (by decide)) hE, add_bind (Nat.lt_of_add_right_lt himg),
    align_eq U32 _ _ (Nat.le_add_left _ _) v.hsa himg, bind_ok, writeField_bind (hl5 _) (hq 56 (by decide)) hUx]
  -- `let soh ← add U64 opt 60; let nh ← add U64 endHdrs 40; let nh ← align U64 nh fileAlign; writeField b soh 4 (nh % U32)`
  have h1E : 1 ≤ pEnd b + 40 := Nat.le_trans v.end_pos (Nat.le_add_right _ _)
  have hnh := alignUp_bounds h1E v.hfa
  have hl6 := fun y z => length_patch_of (hl5 y) (length_leBytes 4 z) (hq 56 (by decide))
  rewrite [add_le (below v.opt_le (by decide)) hE, add_le hL2 hU2, align_eq U64 _ _ h1E v.hfa (lt_U64 v.room_lt), bind_ok,
    Nat.mod_eq_of_lt (Nat.lt_trans hnh.2 v.room_lt), writeField_ok (hl6 _ _) (hq 60 (by decide)) hUx]
  rfl

/-- the last stage of `add_section_to_pe`, on any image `x` with room for a header at `e` behind the two size fields at `q`: the
image padded by `Z` to `A` bytes, the data `D` behind it -/
theorem peOut_view {x H Z D out : Bytes} {e q A R so img nh : Nat} (hH : H.length = 40) (he : e + 40 ≤ x.length) (hq : q + 8 ≤ e)
    (hZ : x.length + Z.length = A) (hD : D.length = R)
    (hout : patch (patch (patch (patch x e H ++ Z ++ D) (e + 20) (leBytes 4 so)) q (leBytes 4 img)) (q + 4) (leBytes 4 nh) = out) :
    out.length = A + R ∧
    (∀ j, j < x.length → ¬ (e ≤ j ∧ j < e + 40) → ¬ (q ≤ j ∧ j < q + 8) → out[j]? = x[j]?) ∧
    (∀ o n, o + n ≤ 20 ∨ 24 ≤ o ∧ o + n ≤ 40 → slice out (e + o) n = slice H o n) ∧
    slice out (e + 20) 4 = leBytes 4 so ∧
    slice out A R = D := by
  have b4 := length_leBytes 4
  have w1 : e + 20 + 4 ≤ x.length := Nat.le_trans (within (Nat.le_refl _) (by decide)) he
  have w2 : q + 4 ≤ x.length := Nat.le_trans (below hq (by decide)) (Nat.le_of_add_right_le he)
  have w3 : q + 4 + 4 ≤ x.length := Nat.le_trans hq (Nat.le_of_add_right_le he)
  have l0 := length_patch_of rfl hH he
  have l1 := length_patch_of l0 (b4 so) w1
  have l2 := length_patch_of l1 (b4 img) w2
  have l3 := length_patch_of l2 (b4 nh) w3
  -- all four patches lie in the first segment
  rw [List.append_assoc, patch_append_left (b4 _) (l0.symm ▸ w1), patch_append_left (b4 _) (l1.symm ▸ w2),
    patch_append_left (b4 _) (l2.symm ▸ w3)] at hout
  subst hout
  refine ⟨?_, fun j hj h0 h1 => ?_, fun o n h => ?_, ?_, ?_⟩
  · rw [List.length_append, List.length_append, l3, ← Nat.add_assoc, hZ, hD]
  · rw [List.getElem?_append_left (l3.symm ▸ hj),
      getElem?_patch_outside l2 (b4 _) w3 (outside_sub h1 (Nat.le_add_right _ _) (Nat.le_refl _)),
      getElem?_patch_outside l1 (b4 _) w2 (outside_sub h1 (Nat.le_refl _) (Nat.add_le_add_left (by decide) _)),
      getElem?_patch_outside l0 (b4 _) w1 (outside_sub h0 (Nat.le_add_right _ _) (within (Nat.le_refl _) (by decide))),
      getElem?_patch_outside rfl hH he h0]
  · have hon : o + n ≤ 40 := h.elim (Nat.le_trans · (by decide)) (·.2)
    rw [slice_append_left (l3.symm ▸ Nat.le_trans (within (Nat.le_refl _) hon) he),
      slice_patch_disjoint_of l2 (b4 _) w3 (.inr (Nat.le_trans hq (Nat.le_add_right _ _))),
      slice_patch_disjoint_of l1 (b4 _) w2 (.inr (Nat.le_trans (below hq (by decide)) (Nat.le_add_right _ _))),
      slice_patch_disjoint_of l0 (b4 _) w1 (h.imp (within (Nat.le_refl _)) (Nat.add_le_add_left ·.1 e)),
      slice_patch_inside rfl hH he o n hon]
  · rw [slice_append_left (l3.symm ▸ w1),
      slice_patch_disjoint_of l2 (b4 _) w3 (.inr (Nat.le_trans hq (Nat.le_add_right _ _))),
      slice_patch_disjoint_of l1 (b4 _) w2 (.inr (Nat.le_trans (below hq (by decide)) (Nat.le_add_right _ _)))]
    exact slice_patch_same_of l0 (b4 _) w1
  · rw [← List.append_assoc, ← hD]
    exact (slice_append_at (List.length_append.trans (l3 ▸ hZ)) _ 0 _).trans (slice_full D)

/-- **What `add_section_to_pe` returns**, window by window.  `low`, `high` and `ptr` are the preservation statement (in the words of
`C19_pe_preserved`); the rest is what the function adds: the section count, the new header and where its raw-data pointer
points, the payload padded to the file alignment. -/
structure PeOut (b name payload out : Bytes) : Prop where
  len : out.length = alignUp (b.length + pBump b) (pFileAlign b) + alignUp payload.length (pFileAlign b)
  fit : pEnd b + 40 ≤ alignUp (b.length + pBump b) (pFileAlign b)
  low : ∀ j, j < pEnd b → (∀ i, i < pNum b → ¬ (pHdrs b + i * 40 + 20 ≤ j ∧ j < pHdrs b + i * 40 + 24)) →
    ¬ (pFh b + 2 ≤ j ∧ j < pFh b + 4) → ¬ (pOpt b + 56 ≤ j ∧ j < pOpt b + 64) → out[j]? = b[j]?
  high : ∀ j, pEnd b + 40 ≤ j + pBump b → j < b.length → pEnd b ≤ j → out[j + pBump b]? = b[j]?
  ptr : ∀ i, i < pNum b → leVal (slice out (pHdrs b + i * 40 + 20) 4) = leVal (slice b (pHdrs b + i * 40 + 20) 4) + pBump b
  num : slice out (pFh b + 2) 2 = leBytes 2 (pNum b + 1)
  hdr : ∀ o n, o + n ≤ 20 ∨ 24 ≤ o ∧ o + n ≤ 40 → slice out (pEnd b + o) n =
    slice (peHdr name (alignUp (pPrevVa b + pPrevVs b) (pSecAlign b)) (alignUp payload.length (pFileAlign b))) o n
  off : slice out (pEnd b + 20) 4 = leBytes 4 (alignUp (b.length + pBump b) (pFileAlign b))
  data : slice out (alignUp (b.length + pBump b) (pFileAlign b)) (alignUp payload.length (pFileAlign b)) =
    payload ++ zeros (alignUp payload.length (pFileAlign b) - payload.length)

theorem addPe_spec (b name payload : Bytes) (v : ValidPe b name payload) :
    ∃ out, addPe b name payload = .ok out ∧ PeOut b name payload out := by
  obtain ⟨b2, img, nh, hl2, hb2f, hb2hi, hb2ptr, hadd⟩ := addPe_eq b name payload v
  generalize hout : patch (patch (patch _ _ _) _ _) _ _ = out at hadd
  refine ⟨out, hadd, ?_⟩
  have hso := v.pad
  have hroom : pEnd b + 40 ≤ b2.length := Nat.le_trans v.room (Nat.le_of_eq hl2.symm)
  have hq : pOpt b + 56 + 8 ≤ pEnd b := v.opt_le
  obtain ⟨V1, V2, V3, V4, V5⟩ := peOut_view (slice_peHdr _ _ _ v.hnamelen).2.2 hroom hq
    (by rw [hl2, length_zeros, Nat.add_sub_cancel' hso.1]) (length_pad rfl (alignUp_bounds v.hpl v.hfa).1) hout
  have hb := length_leBytes 2 (pNum b + 1)
  have hw : pFh b + 2 + 2 ≤ b.length := Nat.le_trans (within v.fh_le (by decide)) v.end_le
  have hlt : ∀ {j}, j < pEnd b → j < b2.length := fun h => Nat.lt_of_lt_of_le h (Nat.le_of_add_right_le hroom)
  refine ⟨V1, Nat.le_trans v.room hso.1, fun j h1 h2 h3 h4 => ?_, fun j h1 h2 h3 => ?_, fun i hi => ?_, ?_, V3, V4, V5⟩
  · rw [V2 j (hlt h1) (outside_lt h1) h4, hb2f j h1 h2, getElem?_patch_outside rfl hb hw h3]
  · rw [V2 _ (Nat.lt_of_lt_of_eq (Nat.add_lt_add_right h2 _) hl2.symm) (outside_ge h1)
      (outside_ge (Nat.le_trans hq (Nat.le_trans h3 (Nat.le_add_right _ _)))), hb2hi j h3]
  · rw [← hb2ptr i hi]
    have := mul_succ_le hi 40
    have := v.hdrs_ge
    have hO : pOpt b = pFh b + 20 := rfl
    exact congrArg leVal (slice_congr _ _ _ _ _ fun k hk =>
      have hj : pHdrs b + i * 40 + 20 + k < pEnd b := show _ < pHdrs b + pNum b * 40 by omega
      V2 _ (hlt hj) (outside_lt hj) (by omega))
  · rw [← slice_patch_same_of rfl hb hw]
    exact slice_congr _ _ _ _ _ fun k hk => by
      have h1 : pFh b + 2 + k < pEnd b := Nat.lt_of_lt_of_le (Nat.add_lt_add_left hk _) (within v.fh_le (by decide))
      have := v.hdrs_ge
      have hO : pOpt b = pFh b + 20 := rfl
      rw [V2 _ (hlt h1) (outside_lt h1) (by omega), hb2f _ h1 fun i _ => by omega]

theorem extractPeLoop_found (out name data : Bytes) (hdrs num rawSize ptr : Nat)
    (hskip : ∀ i, i < num → ∃ r, hdrs + i * 40 < U64 ∧ readStringLoop out (hdrs + i * 40) 8 9 0 = .ok r ∧ slice out (hdrs + i * 40) r ≠ name)
    (h1 : hdrs + num * 40 + 24 < U64) (r0 : Nat)
    (h4 : readStringLoop out (hdrs + num * 40) 8 9 0 = .ok r0) (h5 : slice out (hdrs + num * 40) r0 = name)
    (h6 : readField out (hdrs + num * 40 + 16) 4 = .ok rawSize)
    (h7 : readField out (hdrs + num * 40 + 20) 4 = .ok ptr)
    (h8 : ptr ≤ out.length) (h9 : slice out ptr rawSize = data) :
    ∀ d k, k + d = num → extractPeLoop out name hdrs (d + 1) k = .ok (some data) := by
  intro d
  induction d with
  | zero =>
    intro k hk
    obtain rfl : k = num := hk
    -- `let h ← add U64 hdrs (idx * 40); let nm ← readString b h 8; if nm = name`
    rewrite [extractPeLoop, add_le (Nat.le_add_right _ 24) h1, readString_eq _ _ _ _ h4, bind_ok, h5, if_pos rfl]
    -- `let o1 ← add U64 h 16; let size ← readField b o1 4`
    rewrite [add_le (Nat.add_le_add_left (by decide) _) h1, h6, bind_ok]
    -- `let o2 ← add U64 h 20; let ptr ← readField b o2 4; let (_, x) ← splitOff b ptr`
    rewrite [add_le (Nat.add_le_add_left (by decide) _) h1, h7, bind_ok, splitOff_ok h8, bind_ok]
    exact congrArg (fun x => R.ok (some x)) h9
  | succ d ih =>
    intro k hk
    obtain ⟨r, a1, a4, a5⟩ := hskip k (by omega)
    -- the same steps up to `if nm = name`, which fails
    rewrite [extractPeLoop, add_bind a1, readString_eq _ _ _ _ a4, bind_ok, if_neg a5]
    exact ih (k + 1) (by omega)

theorem nameNe_iff {b name : Bytes} {h : Nat} : NameNe b name h ↔ ∃ r, readStringLoop b h 8 9 0 = .ok r ∧ slice b h r ≠ name := by
  unfold NameNe
  split
  · next r hr => exact ⟨fun hn => ⟨r, hr, hn⟩, fun ⟨r', hr', hn⟩ => R.ok.inj (hr.symm.trans hr') ▸ hn⟩
  · next hne => exact ⟨False.elim, fun ⟨r, hr, _⟩ => hne r hr⟩

theorem nameNe_congr {b o name : Bytes} {h : Nat} (hb : ∀ i, i ≤ 8 → o[h + i]? = b[h + i]?) (hn : NameNe b name h) :
    NameNe o name h := by
  obtain ⟨r, hr, hne⟩ := nameNe_iff.1 hn
  have hr8 := (readStringLoop_bounds b h 8 9 0 r hr).2 (by decide)
  exact nameNe_iff.2 ⟨r, readStringLoop_congr b o h 8 9 0 r hr fun i hi => hb i (Nat.le_trans hi hr8),
    slice_congr o b h h r (fun i hi => hb i (Nat.le_trans (Nat.le_of_lt hi) hr8)) ▸ hne⟩

/-- **What `extract_section_from_pe` returns**: the raw data of section `k`, if that is the first one called `name` -/
theorem extractPe_found (o name : Bytes) (k r : Nat) (hU : o.length < U64) (hs0 : 0x40 ≤ pSig o)
    (hsig : leVal (slice o (pSig o) 4) = 0x00004550) (hk : pNum o = k + 1) (htab : pHdrs o + pNum o * 40 ≤ o.length)
    (hskip : ∀ i, i < k → NameNe o name (pHdrs o + i * 40))
    (hr : readStringLoop o (pHdrs o + k * 40) 8 9 0 = .ok r) (hname : slice o (pHdrs o + k * 40) r = name)
    (hptr : leVal (slice o (pHdrs o + k * 40 + 20) 4) ≤ o.length) :
    extractPe o name =
      .ok (some (slice o (leVal (slice o (pHdrs o + k * 40 + 20) 4)) (leVal (slice o (pHdrs o + k * 40 + 16) 4)))) := by
  have hH : pFh o + 20 ≤ o.length := Nat.le_trans (Nat.le_add_right _ (pOptSize o)) (Nat.le_of_add_right_le htab)
  have hK : pHdrs o + k * 40 + 40 ≤ o.length := by rw [hk] at htab; omega
  have hE := Nat.lt_of_le_of_lt hK hU
  unfold extractPe
  -- `let fh ← validatePe b`
  rewrite [validatePe_eq o hs0 (Nat.le_of_add_right_le hH) hU hsig, bind_ok]
  -- `let o ← add U64 fh 2; let num ← readField b o 2` and `optSize` at 16, inside the file header, which ends at `fh + 20`
  rewrite [readAt (v := pNum o) (within hH (by decide)) (Nat.le_refl _) hU rfl,
    readAt (v := pOptSize o) (within hH (by decide)) (Nat.le_refl _) hU rfl]
  -- `let opt ← add U64 fh 20; let hdrs ← add U64 opt optSize`
  rewrite [add_le hH hU, add_le (show pFh o + 20 + pOptSize o ≤ _ from Nat.le_of_add_right_le htab) hU,
    show pFh o + 20 + pOptSize o = pHdrs o from rfl, hk]
  -- the loop finds entry `k`, whose `size` at 16 and `ptr` at 20 are read inside the image (`hK`)
  refine extractPeLoop_found o name _ (pHdrs o) k _ _ (fun i hi => ?_)
    (Nat.lt_of_le_of_lt (Nat.add_le_add_left (by decide) _) hE) r hr hname
    (readField_val (within (Nat.le_refl _) (by decide)) hK hU rfl) (readField_val (within (Nat.le_refl _) (by decide)) hK hU rfl)
    hptr rfl k 0 (Nat.zero_add k)
  obtain ⟨r', hr', hn⟩ := nameNe_iff.1 (hskip i hi)
  exact ⟨r', by omega, hr', hn⟩

/-- the parsed view of the result: the header geometry of the input, one section more -/
theorem PeOut.parsed {b name payload out : Bytes} (S : PeOut b name payload out) (v : ValidPe b name payload) :
    pSig out = pSig b ∧ slice out (pSig b) 4 = slice b (pSig b) 4 ∧ pNum out = pNum b + 1 ∧ pHdrs out = pHdrs b := by
  have h0 := v.hsig0
  have h1 := v.hdrs_ge
  have hF : pFh b = pSig b + 4 := rfl
  have hO : pOpt b = pFh b + 20 := rfl
  have lows : ∀ o n, o + n ≤ pFh b + 2 ∨ pFh b + 4 ≤ o ∧ o + n ≤ pFh b + 76 → slice out o n = slice b o n := fun o n h =>
    slice_congr _ _ _ _ _ fun i hi =>
      S.low _ (Nat.lt_of_lt_of_le (show _ < pHdrs b by omega) (Nat.le_add_right _ _)) (fun k _ => by omega) (by omega) (by omega)
  have e1 : pSig out = pSig b := congrArg leVal (lows _ _ (by omega))
  have e2 : pFh out = pFh b := congrArg (· + 4) e1
  refine ⟨e1, lows _ _ (by omega), ?_, ?_⟩
  · show leVal (slice out (pFh out + 2) 2) = _
    rw [e2, S.num, leVal_leBytes _ _ (Nat.lt_of_lt_of_eq v.hnum (by decide))]
  · show pFh out + 20 + leVal (slice out (pFh out + 16) 2) = _
    rw [e2, lows _ _ (by omega)]
    rfl

theorem C19_pe_roundtrip_aux (b name payload : Bytes) (v : ValidPe b name payload) :
    ∃ out, addPe b name payload = .ok out ∧
      extractPe out name = .ok (some (payload ++ zeros (alignUp payload.length (pFileAlign b) - payload.length))) := by
  obtain ⟨out, hadd, S⟩ := addPe_spec b name payload v
  refine ⟨out, hadd, ?_⟩
  obtain ⟨e1, esig, e3, e5⟩ := S.parsed v
  obtain ⟨hh8, hh16, -⟩ :=
    slice_peHdr name (alignUp (pPrevVa b + pPrevVs b) (pSecAlign b)) (alignUp payload.length (pFileAlign b)) v.hnamelen
  have hU : out.length < U64 := Nat.lt_of_le_of_lt (Nat.le_of_eq S.len) (lt_U64 v.out_lt)
  have hso : alignUp (b.length + pBump b) (pFileAlign b) ≤ out.length := Nat.le_of_add_right_le (Nat.le_of_eq S.len.symm)
  have hso4 : alignUp (b.length + pBump b) (pFileAlign b) < 256 ^ 4 := Nat.lt_of_add_right_lt v.out_lt
  have hrs : alignUp payload.length (pFileAlign b) < 256 ^ 4 := Nat.lt_of_le_of_lt (Nat.le_add_left _ _) v.out_lt
  have hn := readString_field (o := out) (a := pEnd b) (max := 8) v.hname0 v.hnamelen (by decide)
    (Nat.lt_of_le_of_lt (Nat.le_trans (Nat.add_le_add_left (Nat.le_trans v.hnamelen (by decide)) _) (Nat.le_trans S.fit hso)) hU)
    ((S.hdr 0 8 (.inl (by decide))).trans hh8) fun h => by rw [zeros, List.getElem?_replicate, if_pos (Nat.sub_pos_of_lt h)]
  have hnames : ∀ i, i < pNum b → NameNe out name (pHdrs b + i * 40) := fun i hi =>
    nameNe_congr (fun k hk => by
      have := mul_succ_le hi 40
      have := v.hdrs_ge
      have hO : pOpt b = pFh b + 20 := rfl
      exact S.low _ (show _ < pHdrs b + pNum b * 40 by omega) (fun k' _ => by omega) (by omega) (by omega)) (v.hnames i hi)
  have := extractPe_found out name (pNum b) name.length hU (e1 ▸ v.hsig0) (by rw [e1, esig]; exact v.hsig) e3
    (by rw [e3, e5, Nat.succ_mul, ← Nat.add_assoc]; exact Nat.le_trans S.fit hso)
    (by rw [e5]; exact hnames) (by rw [e5]; exact hn.1) (by rw [e5]; exact hn.2)
    (by rw [e5, show pHdrs b + pNum b * 40 + 20 = pEnd b + 20 from rfl, S.off, leVal_leBytes _ _ hso4]; exact hso)
  rw [this, e5, show pHdrs b + pNum b * 40 + 20 = pEnd b + 20 from rfl, S.off, leVal_leBytes _ _ hso4,
    show pHdrs b + pNum b * 40 + 16 = pEnd b + 16 from rfl, S.hdr 16 4 (.inl (by decide)), hh16,
    leVal_leBytes _ _ hrs, S.data]

end Rj.Exe
