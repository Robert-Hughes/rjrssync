import RjModel.Lemmas.ByteLemmas
/-! `add_section_to_elf` / `extract_section_from_elf` on `ValidElf` images (the byte-vector layer is `Lemmas/ByteLemmas.lean`).

What holds of the result for a `ValidElf` image is reached in three moves, the same for ELF and PE (`Lemmas/PeLemmas.lean`): the
run of the function gives the result in closed form (`addElf_eq`); a lemma about *any* vectors of that form says what each window
of it holds (`elfOut_view`), which for the image at hand is `ElfOut` (`addElf_spec`); and `extractElf_found` says what the
extraction returns on *any* image, in the vocabulary of `Model/ExeValid.lean`.  The round trip is `extractElf_found` applied to the
parsed view of an `ElfOut` (`ElfOut.parsed`), the preservation statements are read off its fields.  `ValidElf` is not destructured:
in the run a bound is the field itself or a lemma of the namespace `ValidElf`, passed as a term; `omega` is kept for telling the
entries of the table apart (`mul_succ_le`, `entries_apart`) and for index arithmetic where the context is small. -/
namespace Rj.Exe

theorem shiftOffsets_step (t : Bytes) (es ins at_ sx n i : Nat) (hw : i * es + 0x18 + 8 ≤ t.length) (hU : t.length < U64)
    (hv : leVal (slice t (i * es + 0x18) 8) + ins < U64) :
    shiftOffsets t es ins at_ sx (n + 1) i = shiftOffsets (if i ≠ sx ∧ at_ ≤ leVal (slice t (i * es + 0x18) 8) then
      patch t (i * es + 0x18) (leBytes 8 (leVal (slice t (i * es + 0x18) 8) + ins)) else t) es ins at_ sx n (i + 1) := by
  rewrite [shiftOffsets]
  split
  -- `if idx = skip`: the names section is passed over
  · next hs => rw [if_neg (fun h => h.1 hs)]
  · next hs =>
    -- `let oo ← add U64 (idx * entsize) 0x18; let orig ← readField table oo 8`
    rewrite [readAt hw (Nat.le_refl _) hU rfl]
    split
    -- `at_ ≤ orig`: `let nw ← add U64 orig inserted; writeField table oo 8 nw`
    · next ha => rw [if_pos ⟨hs, ha⟩, add_bind hv, writeField_bind rfl hw hU]
    · next ha => rw [if_neg (fun h => ha h.2), bind_ok]

/-- the loop that bumps the file offsets of the sections whose data lies at or behind the insertion point: it succeeds, keeps
the table's length, adds `ins` to exactly the 8-byte offset fields of the sections `idx ≠ sx` whose offset is `≥ at_`
and leaves every other byte alone -/
theorem shiftOffsets_spec (es ins at_ sx : Nat) (hes : 0x20 ≤ es) (n : Nat) : ∀ (t : Bytes) (start : Nat),
    t.length < U64 →
    (∀ idx, start ≤ idx → idx < start + n →
        idx * es + 0x20 ≤ t.length ∧ leVal (slice t (idx * es + 0x18) 8) + ins < U64) →
    ∃ t', shiftOffsets t es ins at_ sx n start = .ok t' ∧ t'.length = t.length ∧
      (∀ j, (∀ idx, start ≤ idx → idx < start + n → idx ≠ sx → at_ ≤ leVal (slice t (idx * es + 0x18) 8) →
          ¬ (idx * es + 0x18 ≤ j ∧ j < idx * es + 0x20)) → t'[j]? = t[j]?) ∧
      (∀ idx, start ≤ idx → idx < start + n →
        leVal (slice t' (idx * es + 0x18) 8) =
          if idx ≠ sx ∧ at_ ≤ leVal (slice t (idx * es + 0x18) 8) then leVal (slice t (idx * es + 0x18) 8) + ins
          else leVal (slice t (idx * es + 0x18) 8)) := by
  intro t start hU hin
  obtain ⟨t', he, hl, hf, hv⟩ := fieldLoop_spec (fun t n i => shiftOffsets t es ins at_ sx n i) (fun i => i * es + 0x18) 8 ins U64
    (fun i x => i ≠ sx ∧ at_ ≤ x) (by decide) (fun i j h => by have := mul_succ_le h es; omega) (fun _ _ => rfl)
    (fun t n i => shiftOffsets_step t es ins at_ sx n i) n t start hU hin
  exact ⟨t', he, hl, fun j hj => hf j fun idx h1 h2 hc => hj idx h1 h2 hc.1 hc.2, hv⟩

def hdrOf (es ns newOff plen : Nat) : Bytes :=
  patch (patch (patch (patch (zeros es) 0 (leBytes 4 ns)) 4 (leBytes 4 0x80000000)) 0x18 (leBytes 8 newOff)) 0x20 (leBytes 8 plen)

/-- the names section's new size and the shifted offsets: the modified section header table -/
def tableOk (b : Bytes) (name : Bytes) (T2 : Bytes) : Prop :=
  let sh := eShoff b; let es := eEntsize b; let num := eNum b; let sx := eStrndx b
  let at_ := eNamesOff b + eNamesSize b
  T2.length = num * es ∧
  (∀ j, ¬ (sx * es + 0x20 ≤ j ∧ j < sx * es + 0x28) →
        (∀ idx, idx < num → idx ≠ sx → at_ ≤ secField b idx 0x18 8 → ¬ (idx * es + 0x18 ≤ j ∧ j < idx * es + 0x20)) → T2[j]? = b[sh + j]?) ∧
  leVal (slice T2 (sx * es + 0x20) 8) = eNamesSize b + (name.length + 1) ∧
  (∀ idx, idx < num → leVal (slice T2 (idx * es + 0x18) 8) =
      if idx ≠ sx ∧ at_ ≤ secField b idx 0x18 8 then secField b idx 0x18 8 + (name.length + 1) else secField b idx 0x18 8)

/-- the new section header: the three fields `extract_section_from_elf` reads, and its length -/
theorem slice_hdrOf (es ns newOff plen : Nat) (hes : 0x28 ≤ es) :
    slice (hdrOf es ns newOff plen) 0 4 = leBytes 4 ns ∧
    slice (hdrOf es ns newOff plen) 0x18 8 = leBytes 8 newOff ∧
    slice (hdrOf es ns newOff plen) 0x20 8 = leBytes 8 plen ∧
    (hdrOf es ns newOff plen).length = es := by
  have b4 := length_leBytes 4
  have b8 := length_leBytes 8
  have w1 : 0 + 4 ≤ es := Nat.le_trans (by decide) hes
  have w2 : 4 + 4 ≤ es := Nat.le_trans (by decide) hes
  have w3 : 0x18 + 8 ≤ es := Nat.le_trans (by decide) hes
  have l1 := length_patch_of (length_zeros es) (b4 ns) w1
  have l2 := length_patch_of l1 (b4 0x80000000) w2
  have l3 := length_patch_of l2 (b8 newOff) w3
  unfold hdrOf
  refine ⟨?_, ?_, slice_patch_same_of l3 (b8 _) hes, length_patch_of l3 (b8 _) hes⟩
  · rw [slice_patch_disjoint_of l3 (b8 _) hes (.inl (by decide)), slice_patch_disjoint_of l2 (b8 _) w3 (.inl (by decide)),
      slice_patch_disjoint_of l1 (b4 _) w2 (.inl (by decide))]
    exact slice_patch_same_of (length_zeros es) (b4 _) w1
  · rw [slice_patch_disjoint_of l3 (b8 _) hes (.inl (by decide))]
    exact slice_patch_same_of l2 (b8 _) w3

theorem tableOk.length {b name T2 : Bytes} (h : tableOk b name T2) : T2.length = eNum b * eEntsize b := h.1

theorem secField_drop (b : Bytes) (i o n : Nat) : leVal (slice (b.drop (eShoff b)) (i * eEntsize b + o) n) = secField b i o n := by
  rw [slice_drop, ← Nat.add_assoc]; rfl

namespace ValidElf
variable {b name : Bytes} (v : ValidElf b name)
include v

theorem shoff_le : eShoff b ≤ b.length := Nat.le_of_add_right_le (Nat.le_of_eq v.hlen.symm)

theorem len_ge : 64 ≤ b.length := Nat.le_trans v.hsh v.shoff_le

theorem out_lt {payload : Bytes} (hsz : b.length + payload.length + 2 ^ 17 < U64) :
    eShoff b + (name.length + 1) + payload.length + (eNum b * eEntsize b + eEntsize b) < U64 := by
  have := v.hlen; have := v.hnamelen; have : eEntsize b < 256 ^ 2 := leVal_slice_lt b _ _
  omega

theorem ns_lt : eNamesSize b + (name.length + 1) < U64 := by
  have := v.hns32; have := v.hnamelen; have : U32 + 33 < U64 := by decide
  omega

/-- the table is what `split_off` leaves: `b.drop (eShoff b)` -/
theorem length_table : (b.drop (eShoff b)).length = eNum b * eEntsize b := by
  rw [List.length_drop, v.hlen, Nat.add_sub_cancel_left]

end ValidElf

/-- the two changes `add_section_to_elf` makes to the section header table: the names section grows by the inserted name, and the
offsets at or behind the insertion point of the other sections move up by as much -/
theorem elfTable_ok {b name : Bytes} (v : ValidElf b name) (hU : b.length < U64) :
    ∃ T2, shiftOffsets (patch (b.drop (eShoff b)) (eStrndx b * eEntsize b + 0x20) (leBytes 8 (eNamesSize b + (name.length + 1))))
      (eEntsize b) (name.length + 1) (eNamesOff b + eNamesSize b) (eStrndx b) (eNum b) 0 = .ok T2 ∧ tableOk b name T2 := by
  have hes := v.hes
  have hT := v.length_table
  have hsx := mul_succ_le v.hstr (eEntsize b)
  have hb8 := length_leBytes 8 (eNamesSize b + (name.length + 1))
  have hw : eStrndx b * eEntsize b + 0x20 + 8 ≤ (b.drop (eShoff b)).length := Nat.le_trans (within hsx hes) (Nat.le_of_eq hT.symm)
  have hUT : (b.drop (eShoff b)).length < U64 := Nat.lt_of_le_of_lt (List.length_drop ▸ Nat.sub_le _ _) hU
  -- `P`: the table after `writeField table o2 8 namesNew`; the offset fields (at 0x18) of its entries still read as in `b`
  generalize hP : patch (b.drop (eShoff b)) _ _ = P
  have hlP : P.length = eNum b * eEntsize b := hP ▸ (length_patch_of rfl hb8 hw).trans hT
  have hsl : ∀ idx, idx < eNum b → leVal (slice P (idx * eEntsize b + 0x18) 8) = secField b idx 0x18 8 := fun idx h => by
    rw [← hP, slice_patch_disjoint_of rfl hb8 hw (by have := entries_apart idx (eStrndx b) (eEntsize b); omega), secField_drop]
  obtain ⟨T2, he, hl, hf, hv⟩ := shiftOffsets_spec (eEntsize b) (name.length + 1) (eNamesOff b + eNamesSize b) (eStrndx b)
    (Nat.le_trans (by decide) hes) (eNum b) P 0 (hlP ▸ hT ▸ hUT) fun idx _ h => by
    have hi : idx < eNum b := Nat.zero_add (eNum b) ▸ h
    have := mul_succ_le hi (eEntsize b)
    exact ⟨by omega, by rw [hsl idx hi]; exact v.hshift idx hi⟩
  rw [Nat.zero_add] at hf hv
  refine ⟨T2, he, hl.trans hlP, fun j h1 h2 => ?_, ?_, fun idx h => ?_⟩
  -- a byte outside the fields that were written: the loop, then the patch leave it alone, and the table is `b.drop (eShoff b)`
  · rw [hf j fun idx _ h3 h4 h5 => h2 idx h3 h4 (hsl idx h3 ▸ h5), ← hP, getElem?_patch_outside rfl hb8 hw h1, List.getElem?_drop]
  -- the size field of the names section: the loop writes offset fields only, which lie apart from it
  · rw [slice_congr T2 P _ _ 8 fun i hi => hf _ fun idx _ _ h4 _ => by have := entries_apart idx (eStrndx b) (eEntsize b); omega,
      ← hP]
    exact leVal_slice_patch rfl hw v.ns_lt
  · rw [hv idx (Nat.zero_le _) h, hsl idx h]

theorem addElf_eq (b name payload : Bytes) (v : ValidElf b name) (hsz : b.length + payload.length + 2 ^ 17 < U64) :
    let sh := eShoff b; let es := eEntsize b; let num := eNum b
    let at_ := eNamesOff b + eNamesSize b; let ins := name.length + 1
    ∃ T2, tableOk b name T2 ∧
      addElf b name payload = .ok
        (patch (patch ((((b.take sh).take at_ ++ (name ++ [0]) ++ (b.take sh).drop at_) ++ payload) ++
            (T2 ++ hdrOf es (eNamesSize b) (sh + ins) payload.length)) 0x28 (leBytes 8 (sh + ins + payload.length)))
          0x3C (leBytes 2 (num + 1))) := by
  dsimp only
  have hU : b.length < U64 := Nat.lt_of_add_right_lt (Nat.lt_of_add_right_lt hsz)
  have h64 : 64 ≤ b.length := v.len_ge
  obtain ⟨T2, he, hT2⟩ := elfTable_ok v hU
  refine ⟨T2, hT2, ?_⟩
  unfold addElf
  -- `validateElf b`; the four fields of the ELF header, which ends at 64
  rewrite [v.hval, bind_ok]
  rewrite [readField_bind (v := eShoff b) (by decide) h64 hU rfl, readField_bind (v := eEntsize b) (by decide) h64 hU rfl,
    readField_bind (v := eNum b) (by decide) h64 hU rfl, readField_bind (v := eStrndx b) (by decide) h64 hU rfl]
  -- `let endT ← add U64 shoff (num * entsize); if b.length ≠ endT then .err`
  rewrite [add_le (Nat.le_of_eq v.hlen.symm) hU, if_neg (fun h => h v.hlen)]
  -- `let (elf, table) ← splitOff b shoff`
  have hsh : eShoff b ≤ b.length := v.shoff_le
  rewrite [splitOff_ok hsh, bind_ok]
  dsimp only
  -- `let o1 ← add U64 (strndx * entsize) 0x18; let namesOff ← readField table o1 8`, and `o2`, `namesSize` at 0x20:
  -- entry `strndx` lies inside the table
  have hT := v.length_table
  have hUT : (b.drop (eShoff b)).length < U64 := Nat.lt_of_le_of_lt (List.length_drop ▸ Nat.sub_le _ _) hU
  have hsxe : eStrndx b * eEntsize b + eEntsize b ≤ (b.drop (eShoff b)).length :=
    Nat.le_trans (mul_succ_le v.hstr _) (Nat.le_of_eq hT.symm)
  have w18 : 0x18 + 8 ≤ eEntsize b := Nat.le_trans (by decide) v.hes
  have hw2 : eStrndx b * eEntsize b + 0x20 + 8 ≤ (b.drop (eShoff b)).length := within hsxe v.hes
  rewrite [readAt (v := eNamesOff b) (within hsxe w18) (Nat.le_refl _) hUT (secField_drop ..),
    readAt (v := eNamesSize b) hw2 (Nat.le_refl _) hUT (secField_drop ..)]
  -- `let at_ ← add U64 namesOff namesSize; let elf ← spliceAt elf at_ newBytes`
  have hE : (b.take (eShoff b)).length = eShoff b := List.length_take_of_le hsh
  have hat : eNamesOff b + eNamesSize b ≤ (b.take (eShoff b)).length := Nat.le_trans v.hns (Nat.le_of_eq hE.symm)
  rewrite [add_le (Nat.le_trans v.hns hsh) hU, spliceAt_ok hat, bind_ok]
  -- `let namesNew ← add U64 namesSize inserted; let table ← writeField table o2 8 namesNew`
  have hI : (name ++ [0]).length = name.length + 1 := List.length_append
  rewrite [hI, add_bind v.ns_lt, writeField_bind rfl hw2 hUT]
  -- `let table ← shiftOffsets table entsize inserted at_ strndx num 0`
  rewrite [he, bind_ok]
  -- `let newOff := elf.length`: the image with the name spliced in, `S` from here on, has `eShoff b + (name.length + 1)` bytes
  have hS := (length_splice hI hat).trans (congrArg (· + _) hE)
  rewrite [hS]
  generalize List.take _ (List.take _ b) ++ _ ++ _ = S at hS ⊢
  -- `let hdr := zeros entsize` and its four fields, which end at 0x28 ≤ `entsize`
  have hUe : eEntsize b < U64 := Nat.lt_trans (leVal_slice_lt b _ _) (by decide)
  have w0 : 0 + 4 ≤ eEntsize b := Nat.le_trans (by decide) v.hes
  have w4 : 4 + 4 ≤ eEntsize b := Nat.le_trans (by decide) v.hes
  have hp0 := length_zeros (eEntsize b)
  have hp1 := fun x => length_patch_of hp0 (length_leBytes 4 x) w0
  have hp2 := fun x y => length_patch_of (hp1 x) (length_leBytes 4 y) w4
  have hp3 := fun x y z => length_patch_of (hp2 x y) (length_leBytes 8 z) w18
  rewrite [Nat.mod_eq_of_lt v.hns32, writeField_bind hp0 w0 hUe, writeField_bind (hp1 _) w4 hUe, writeField_bind (hp2 _ _) w18 hUe,
    writeField_bind (hp3 _ _ _) v.hes hUe, ← hdrOf]
  -- `let newShoff := elf.length` with `elf = S ++ payload`; the result `O` before the two last writes, and its length
  rewrite [List.length_append (bs := payload), hS]
  generalize hO : S ++ payload ++ _ = O
  have hlO : O.length = eShoff b + (name.length + 1) + payload.length + (eNum b * eEntsize b + eEntsize b) := by
    rw [← hO, List.length_append, List.length_append, hS, List.length_append, hT2.length, (slice_hdrOf _ _ _ _ v.hes).2.2.2]
  have hUO : O.length < U64 := Nat.lt_of_le_of_lt (Nat.le_of_eq hlO) (v.out_lt hsz)
  have h64O : 64 ≤ O.length :=
    Nat.le_trans v.hsh (Nat.le_trans (Nat.le_of_add_right_le (Nat.le_of_add_right_le (Nat.le_add_right _ _))) (Nat.le_of_eq hlO.symm))
  have w28 : 0x28 + 8 ≤ O.length := Nat.le_trans (by decide) h64O
  -- `let elf ← writeField elf 0x28 8 newShoff; writeField elf 0x3C 2 ((num + 1) % U16)`
  rw [writeField_bind rfl w28 hUO, Nat.mod_eq_of_lt v.hnum,
    writeField_ok (length_patch_of rfl (length_leBytes 8 _) w28) (Nat.le_trans (by decide) h64O) hUO]

/-- the last stage of `add_section_to_elf`: the name `ins` spliced into `E` at `a` (behind the ELF header), the payload and
the new table `T` appended, the two header fields updated -/
theorem elfOut_view {E ins P T out : Bytes} {a n x y : Nat} (ha : 64 ≤ a) (haE : a ≤ E.length) (hn : ins.length = n)
    (hout : patch (patch ((E.take a ++ ins ++ E.drop a) ++ P ++ T) 0x28 (leBytes 8 x)) 0x3C (leBytes 2 y) = out) :
    out.length = E.length + n + P.length + T.length ∧
    (∀ j, j < a → ¬ (40 ≤ j ∧ j < 48) → ¬ (60 ≤ j ∧ j < 62) → out[j]? = E[j]?) ∧
    (∀ j, a ≤ j → j < E.length → out[j + n]? = E[j]?) ∧
    slice out a n = ins ∧
    slice out (E.length + n) P.length = P ∧
    (∀ i, out[E.length + n + P.length + i]? = T[i]?) ∧
    slice out 0x28 8 = leBytes 8 x ∧ slice out 0x3C 2 = leBytes 2 y := by
  have lS := length_splice hn haE
  have b8 := length_leBytes 8 x
  have b2 := length_leBytes 2 y
  have h64 : 64 ≤ E.length + n := Nat.le_trans ha (Nat.le_trans haE (Nat.le_add_right _ _))
  have w1 : 0x28 + 8 ≤ E.length + n := Nat.le_trans (by decide) h64
  have w2 : 0x3C + 2 ≤ E.length + n := Nat.le_trans (by decide) h64
  have l1 := length_patch_of lS b8 w1
  have l2 := length_patch_of l1 b2 w2
  -- both header fields lie in the first segment
  rw [List.append_assoc, patch_append_left b8 (lS.symm ▸ w1), patch_append_left b2 (l1.symm ▸ w2)] at hout
  subst hout
  refine ⟨?_, fun j hj h1 h2 => ?_, fun j hj hjE => ?_, ?_, ?_, fun i => ?_, ?_, ?_⟩
  · rw [List.length_append, List.length_append, l2]
    exact (Nat.add_assoc _ _ _).symm
  · rw [List.getElem?_append_left (l2.symm ▸ Nat.lt_of_lt_of_le hj (Nat.le_trans haE (Nat.le_add_right _ _))),
      getElem?_patch_outside l1 b2 w2 h2, getElem?_patch_outside lS b8 w1 h1, getElem?_splice_lt ins hj haE]
  · have h62 : 62 ≤ j + n := by omega
    rw [List.getElem?_append_left (l2.symm ▸ Nat.add_lt_add_right hjE n), getElem?_patch_outside l1 b2 w2 (outside_ge h62),
      getElem?_patch_outside lS b8 w1 (outside_ge (Nat.le_trans (by decide) h62)), getElem?_splice_ge hn hj haE]
  · rw [slice_append_left (l2.symm ▸ Nat.add_le_add_right haE n),
      slice_patch_disjoint_of l1 b2 w2 (.inr (Nat.le_trans (by decide) ha)),
      slice_patch_disjoint_of lS b8 w1 (.inr (Nat.le_trans (by decide) ha)), slice_splice hn haE]
  · exact (slice_append_at l2 _ 0 _).trans ((slice_append_left (Nat.le_of_eq (Nat.zero_add _))).trans (slice_full P))
  · rw [Nat.add_assoc, getElem?_append_at l2, getElem?_append_at rfl]
  · rw [slice_append_left (l2.symm ▸ w1), slice_patch_disjoint_of l1 b2 w2 (.inl (by decide))]
    exact slice_patch_same_of lS b8 w1
  · rw [slice_append_left (l2.symm ▸ w2)]
    exact slice_patch_same_of l1 b2 w2

/-- **What `add_section_to_elf` returns**, window by window.  Up to `num` this is the preservation statement (what the function
leaves alone, in the words of `C19_elf_preserved`); the rest is what it adds: the name at the end of the names section, the payload
behind the old contents, the new header at the end of the table. -/
structure ElfOut (b name payload out T2 : Bytes) : Prop where
  tabOk : tableOk b name T2
  low : ∀ j, j < eNamesOff b + eNamesSize b → ¬ (40 ≤ j ∧ j < 48) → ¬ (60 ≤ j ∧ j < 62) → out[j]? = b[j]?
  mid : ∀ j, eNamesOff b + eNamesSize b ≤ j → j < eShoff b → out[j + (name.length + 1)]? = b[j]?
  table : ∀ j, j < eNum b * eEntsize b → out[eShoff b + (name.length + 1) + payload.length + j]? = T2[j]?
  shoff : eShoff out = eShoff b + (name.length + 1) + payload.length
  num : eNum out = eNum b + 1
  len : out.length = eShoff b + (name.length + 1) + payload.length + (eNum b * eEntsize b + eEntsize b)
  nm : slice out (eNamesOff b + eNamesSize b) (name.length + 1) = name ++ [0]
  data : slice out (eShoff b + (name.length + 1)) payload.length = payload
  hdr : ∀ o n, slice out (eShoff b + (name.length + 1) + payload.length + (eNum b * eEntsize b + o)) n =
    slice (hdrOf (eEntsize b) (eNamesSize b) (eShoff b + (name.length + 1)) payload.length) o n

theorem addElf_spec (b name payload : Bytes) (v : ValidElf b name) (hsz : b.length + payload.length + 2 ^ 17 < U64) :
    ∃ out T2, addElf b name payload = .ok out ∧ ElfOut b name payload out T2 := by
  obtain ⟨T2, hT, hadd⟩ := addElf_eq b name payload v hsz
  generalize hout : patch (patch _ _ _) _ _ = out at hadd
  refine ⟨out, T2, hadd, ?_⟩
  have hsh := v.shoff_le
  have hE : (b.take (eShoff b)).length = eShoff b := List.length_take_of_le hsh
  have hHl := (slice_hdrOf (eEntsize b) (eNamesSize b) (eShoff b + (name.length + 1)) payload.length v.hes).2.2.2
  obtain ⟨V1, V2, V3, V4, V5, V6, V7, V8⟩ := elfOut_view (Nat.le_trans v.hno (Nat.le_add_right _ _))
    (Nat.le_trans v.hns (Nat.le_of_eq hE.symm)) (List.length_append : (name ++ [0]).length = name.length + 1) hout
  rw [hE] at V1 V3 V5 V6
  refine ⟨hT, fun j hj h1 h2 => ?_, fun j h1 h2 => ?_, fun j hj => ?_, ?_, ?_, ?_, V4, V5, fun o n => ?_⟩
  · rw [V2 j hj h1 h2, List.getElem?_take, if_pos (Nat.lt_of_lt_of_le hj v.hns)]
  · rw [V3 j h1 h2, List.getElem?_take, if_pos h2]
  · rw [V6, List.getElem?_append_left (hT.length.symm ▸ hj)]
  · exact (congrArg leVal V7).trans (leVal_leBytes _ _ (Nat.lt_of_add_right_lt (v.out_lt hsz)))
  · exact (congrArg leVal V8).trans (leVal_leBytes _ _ (Nat.lt_of_lt_of_le v.hnum (by decide)))
  · rw [V1, List.length_append, hT.length, hHl]
  · exact slice_congr _ _ _ _ _ fun i _ => by rw [Nat.add_assoc _ _ i, Nat.add_assoc _ o i, V6, getElem?_append_at hT.length]

theorem addElf_preserved (b name payload : Bytes) (v : ValidElf b name) (hsz : b.length + payload.length + 2 ^ 17 < U64) :
    ∃ out T2, addElf b name payload = .ok out ∧ tableOk b name T2 ∧
      (∀ j, j < eNamesOff b + eNamesSize b → ¬ (40 ≤ j ∧ j < 48) → ¬ (60 ≤ j ∧ j < 62) → out[j]? = b[j]?) ∧
      (∀ j, eNamesOff b + eNamesSize b ≤ j → j < eShoff b → out[j + (name.length + 1)]? = b[j]?) ∧
      (∀ j, j < eNum b * eEntsize b → out[eShoff b + (name.length + 1) + payload.length + j]? = T2[j]?) ∧
      eShoff out = eShoff b + (name.length + 1) + payload.length ∧ eNum out = eNum b + 1 := by
  obtain ⟨out, T2, h, S⟩ := addElf_spec b name payload v hsz
  exact ⟨out, T2, h, S.tabOk, S.low, S.mid, S.table, S.shoff, S.num⟩

theorem validateElf_congr (b b' : Bytes) (h7 : 7 ≤ b.length) (h7' : 7 ≤ b'.length) (hU : b.length < U64) (hU' : b'.length < U64)
    (h : ∀ i, i < 7 → b'[i]? = b[i]?) : validateElf b' = validateElf b := by
  have e : ∀ o n, o + n ≤ 7 → readField b' o n = readField b o n := fun o n hn => by
    rw [readField_val hn h7 hU rfl,
      readField_val hn h7' hU' (congrArg leVal (slice_congr _ _ _ _ _ fun i hi => h (o + i) (by omega)))]
  unfold validateElf
  rw [e 0 4 (by decide), e 4 1 (by decide), e 5 1 (by decide), e 6 1 (by decide)]

/-- what the search loop of `extract_section_from_elf` does on a table whose first `num` names differ
from `name` and whose entry `num` is the wanted one -/
theorem extractElfLoop_found (out name payload : Bytes) (sh' es no num ns newOff : Nat)
    (hskip : ∀ i, i < num → ∃ nmoff r, sh' + i * es < U64 ∧ readField out (sh' + i * es) 4 = .ok nmoff ∧ no + nmoff < U64 ∧
        readStringLoop out (no + nmoff) 32 33 0 = .ok r ∧ slice out (no + nmoff) r ≠ name)
    (h1 : sh' + num * es + 0x20 < U64) (h2 : readField out (sh' + num * es) 4 = .ok ns) (h3 : no + ns < U64)
    (h4 : readStringLoop out (no + ns) 32 33 0 = .ok name.length) (h5 : slice out (no + ns) name.length = name)
    (h6 : readField out (sh' + num * es + 0x18) 8 = .ok newOff)
    (h7 : readField out (sh' + num * es + 0x20) 8 = .ok payload.length)
    (h8 : newOff ≤ out.length) (h9 : slice out newOff payload.length = payload) :
    ∀ d k, k + d = num → extractElfLoop out name sh' es no (d + 1) k = .ok (some payload) := by
  intro d
  induction d with
  | zero =>
    intro k hk
    obtain rfl : k = num := hk
    -- `let hdr ← add U64 shoff (idx * entsize); let nameOff ← readField b hdr 4`
    rewrite [extractElfLoop, add_le (Nat.le_add_right _ 0x20) h1, h2, bind_ok]
    -- `let so ← add U64 namesOff nameOff; let nm ← readString b so 32; if nm = name`
    rewrite [add_bind h3, readString_eq _ _ _ _ h4, bind_ok, h5, if_pos rfl]
    -- `let dOff ← add U64 hdr 0x18; let off ← readField b dOff 8`
    rewrite [add_le (Nat.add_le_add_left (by decide) _) h1, h6, bind_ok]
    -- `let sOff ← add U64 hdr 0x20; let size ← readField b sOff 8; let (_, x) ← splitOff b off`
    rewrite [add_bind h1, h7, bind_ok, splitOff_ok h8, bind_ok]
    exact congrArg (fun x => R.ok (some x)) h9
  | succ d ih =>
    intro k hk
    obtain ⟨nmoff, r, a1, a2, a3, a4, a5⟩ := hskip k (by omega)
    -- the same steps up to `if nm = name`, which fails
    rewrite [extractElfLoop, add_bind a1, a2, bind_ok]
    rewrite [add_bind a3, readString_eq _ _ _ _ a4, bind_ok, if_neg a5]
    exact ih (k + 1) (by omega)

theorem nameOk_iff {b name : Bytes} {so lim : Nat} :
    NameOk b name so lim ↔ ∃ r, readStringLoop b so 32 33 0 = .ok r ∧ slice b so r ≠ name ∧ so + r + 1 ≤ lim := by
  unfold NameOk
  split
  · next r hr => exact ⟨fun hn => ⟨r, hr, hn⟩, fun ⟨r', hr', hn⟩ => R.ok.inj (hr.symm.trans hr') ▸ hn⟩
  · next hne => exact ⟨False.elim, fun ⟨r, hr, _⟩ => hne r hr⟩

theorem nameOk_congr {b o name : Bytes} {so lim lim' : Nat} (hb : ∀ i, so + i < lim → o[so + i]? = b[so + i]?) (hl : lim ≤ lim')
    (hn : NameOk b name so lim) : NameOk o name so lim' := by
  obtain ⟨r, hr, hne, hlim⟩ := nameOk_iff.1 hn
  exact nameOk_iff.2 ⟨r, readStringLoop_congr b o so 32 33 0 r hr fun i hi => hb i (by omega),
    slice_congr o b so so r (fun i hi => hb i (by omega)) ▸ hne, Nat.le_trans hlim hl⟩

/-- **What `extract_section_from_elf` returns** on any image: the contents of its last section, if that is the first one
called `name` -/
theorem extractElf_found (o name : Bytes) (k : Nat) (hval : validateElf o = .ok ()) (hU : o.length < U64)
    (hk : eNum o = k + 1) (hstr : eStrndx o < eNum o) (hes : 0x28 ≤ eEntsize o) (htab : eShoff o + eNum o * eEntsize o ≤ o.length)
    (h64 : 64 ≤ eShoff o)
    (hskip : ∀ i, i < k → NameOk o name (eNamesOff o + secField o i 0 4) o.length)
    (hso : eNamesOff o + secField o k 0 4 ≤ o.length)
    (hr : readStringLoop o (eNamesOff o + secField o k 0 4) 32 33 0 = .ok name.length)
    (hname : slice o (eNamesOff o + secField o k 0 4) name.length = name)
    (hdat : secField o k 0x18 8 + secField o k 0x20 8 ≤ o.length) :
    extractElf o name = .ok (some (slice o (secField o k 0x18 8) (secField o k 0x20 8))) := by
  have h64o : 64 ≤ o.length := Nat.le_trans h64 (Nat.le_of_add_right_le htab)
  -- every entry of the table lies inside the image
  have hent : ∀ i, i < eNum o → eShoff o + i * eEntsize o + eEntsize o ≤ o.length := fun i hi =>
    Nat.le_trans (Nat.add_assoc .. ▸ Nat.add_le_add_left (mul_succ_le hi _) _) htab
  -- the fields of an entry that are read end at 4, 0x20, 0x28 ≤ `entsize`
  have w4 : 4 ≤ eEntsize o := Nat.le_trans (by decide) hes
  have w18 : 0x18 + 8 ≤ eEntsize o := Nat.le_trans (by decide) hes
  unfold extractElf
  -- `validateElf b`; the four fields of the ELF header, which ends at 64
  rewrite [hval, bind_ok]
  rewrite [readField_bind (v := eShoff o) (by decide) h64o hU rfl, readField_bind (v := eEntsize o) (by decide) h64o hU rfl,
    readField_bind (v := eNum o) (by decide) h64o hU rfl, readField_bind (v := eStrndx o) (by decide) h64o hU rfl]
  -- `let a ← add U64 shoff (strndx * entsize); let a2 ← add U64 a 0x18; let namesOff ← readField b a2 8`
  have hsx := hent _ hstr
  rewrite [add_le (Nat.le_of_add_right_le hsx) hU, readAt (v := eNamesOff o) (within hsx w18) (Nat.le_refl _) hU rfl, hk]
  -- the loop finds entry `k`: what `extractElfLoop_found` asks for, in the order of the loop's lines
  have hkk := hent k (hk ▸ Nat.lt_succ_self k)
  refine extractElfLoop_found o name (slice o (secField o k 0x18 8) (secField o k 0x20 8)) (eShoff o) (eEntsize o) (eNamesOff o) k
    (secField o k 0 4) (secField o k 0x18 8) (fun i hi => ?_)
    (Nat.lt_of_le_of_lt (below hkk (Nat.le_trans (by decide) hes)) hU)
    (readField_val (below hkk w4) (Nat.le_refl _) hU rfl)
    (Nat.lt_of_le_of_lt hso hU) hr hname
    (readField_val (within hkk w18) (Nat.le_refl _) hU rfl)
    (readField_val (within hkk hes) (Nat.le_refl _) hU ?_)
    (Nat.le_of_add_right_le hdat) ?_ k 0 (Nat.zero_add k)
  · obtain ⟨r, hr', hne, hlim⟩ := nameOk_iff.1 (hskip i hi)
    have hii := hent i (hk ▸ Nat.lt_succ_of_lt hi)
    exact ⟨secField o i 0 4, r, Nat.lt_of_le_of_lt (Nat.le_of_add_right_le hii) hU,
      readField_val (below hii w4) (Nat.le_refl _) hU rfl,
      Nat.lt_of_le_of_lt (Nat.le_of_add_right_le (Nat.le_of_add_right_le hlim)) hU, hr', hne⟩
  · rw [length_slice _ _ _ hdat]; rfl
  · rw [length_slice _ _ _ hdat]

/-- in the new table an old entry keeps its first 0x18 bytes, and the names section's entry its offset as well -/
theorem tableOk.slice {b name T2 : Bytes} (h : tableOk b name T2) (hes : 0x28 ≤ eEntsize b) {i o n : Nat}
    (ho : o + n ≤ 0x18 ∨ i = eStrndx b ∧ o + n ≤ 0x20) :
    slice T2 (i * eEntsize b + o) n = slice b (eShoff b + (i * eEntsize b + o)) n :=
  slice_congr _ _ _ _ _ fun k hk => by
    rw [Nat.add_assoc (eShoff b)]
    exact h.2.1 (i * eEntsize b + o + k) (by have := entries_apart i (eStrndx b) (eEntsize b); omega)
      fun idx _ hne _ => by have := entries_apart i idx (eEntsize b); omega

/-- the parsed view of the result: the header geometry of the input behind the payload, the old entries of the table with their
names, the new entry -/
theorem ElfOut.parsed {b name payload out T2 : Bytes} (S : ElfOut b name payload out T2) (v : ValidElf b name)
    (hsz : b.length + payload.length + 2 ^ 17 < U64) :
    eEntsize out = eEntsize b ∧ eStrndx out = eStrndx b ∧ eNamesOff out = eNamesOff b ∧
    (∀ i, i < eNum b → secField out i 0 4 = secField b i 0 4) ∧
    secField out (eNum b) 0 4 = eNamesSize b ∧ secField out (eNum b) 0x18 8 = eShoff b + (name.length + 1) ∧
    secField out (eNum b) 0x20 8 = payload.length := by
  have hno := v.hno
  have lows : ∀ o n, 48 ≤ o → o + n ≤ 60 ∨ 62 ≤ o ∧ o + n ≤ 64 → slice out o n = slice b o n := fun o n h1 h2 =>
    slice_congr _ _ _ _ _ fun i hi => S.low _ (by omega) (by omega) (by omega)
  have e1 : eEntsize out = eEntsize b := congrArg leVal (lows _ _ (by decide) (.inl (by decide)))
  have e2 : eStrndx out = eStrndx b := congrArg leVal (lows _ _ (by decide) (.inr (by decide)))
  have sec : ∀ i o n, secField out i o n =
      leVal (slice out (eShoff b + (name.length + 1) + payload.length + (i * eEntsize b + o)) n) :=
    fun i o n => by unfold secField; rw [S.shoff, e1, Nat.add_assoc]
  have old : ∀ i, i < eNum b → ∀ o n, o + n ≤ 0x18 ∨ i = eStrndx b ∧ o + n ≤ 0x20 → secField out i o n = secField b i o n :=
    fun i hi o n h => by
      have := mul_succ_le hi (eEntsize b)
      have := v.hes
      rw [sec, slice_congr out T2 _ (i * eEntsize b + o) n fun k hk => by
          rw [Nat.add_assoc]; exact S.table (i * eEntsize b + o + k) (by omega),
        S.tabOk.slice v.hes h, ← Nat.add_assoc]
      rfl
  obtain ⟨h0, h18, h20, -⟩ := slice_hdrOf (eEntsize b) (eNamesSize b) (eShoff b + (name.length + 1)) payload.length v.hes
  have hlt : eShoff b + (name.length + 1) + payload.length < 256 ^ 8 := Nat.lt_of_add_right_lt (v.out_lt hsz)
  refine ⟨e1, e2, ?_, fun i hi => old i hi 0 4 (.inl (by decide)), ?_, ?_, ?_⟩
  · unfold eNamesOff; rw [e2, old _ v.hstr _ _ (.inr ⟨rfl, by decide⟩)]
  · rw [sec, S.hdr, h0, leVal_leBytes _ _ v.hns32]
  · rw [sec, S.hdr, h18, leVal_leBytes _ _ (Nat.lt_of_add_right_lt hlt)]
  · rw [sec, S.hdr, h20, leVal_leBytes _ _ (Nat.lt_of_le_of_lt (Nat.le_add_left _ _) hlt)]

theorem C19_elf_roundtrip_aux (b name payload : Bytes) (v : ValidElf b name) (hsz : b.length + payload.length + 2 ^ 17 < U64) :
    ∃ out, addElf b name payload = .ok out ∧ extractElf out name = .ok (some payload) := by
  obtain ⟨out, T2, hadd, S⟩ := addElf_spec b name payload v hsz
  refine ⟨out, hadd, ?_⟩
  obtain ⟨e1, e2, e3, old, n0, n18, n20⟩ := S.parsed v hsz
  have hU : out.length < U64 := Nat.lt_of_le_of_lt (Nat.le_of_eq S.len) (v.out_lt hsz)
  have hle := Nat.le_of_eq S.len.symm
  have hdat : eShoff b + (name.length + 1) + payload.length ≤ out.length := Nat.le_of_add_right_le hle
  have hso : eNamesOff b + eNamesSize b ≤ out.length :=
    Nat.le_trans v.hns (Nat.le_trans (Nat.le_of_add_right_le (Nat.le_add_right _ _)) hdat)
  have h62 : ∀ x k, 62 ≤ eNamesOff b + x + k := fun x k =>
    Nat.le_trans (by decide) (Nat.le_trans v.hno (Nat.le_of_add_right_le (Nat.le_add_right _ _)))
  have hval : validateElf out = .ok () :=
    (validateElf_congr b out (Nat.le_trans (by decide) v.len_ge) (Nat.le_trans (by decide) (Nat.le_trans (h62 _ 0) hso))
      (Nat.lt_of_add_right_lt (Nat.lt_of_add_right_lt hsz)) hU fun i hi =>
      S.low i (Nat.lt_of_lt_of_le hi (Nat.le_trans (by decide) (h62 _ 0)))
        (outside_lt (Nat.lt_of_lt_of_le hi (by decide))) (outside_lt (Nat.lt_of_lt_of_le hi (by decide)))).trans v.hval
  obtain ⟨hr, hname⟩ := readString_field (o := out) (a := eNamesOff b + eNamesSize b) (max := 32) v.hname0
    (Nat.le_of_lt v.hnamelen) (by decide)
    (Nat.lt_of_le_of_lt (Nat.le_trans (Nat.add_le_add v.hns (Nat.le_succ _)) (Nat.le_of_add_right_le hdat)) hU) S.nm fun _ => rfl
  have := extractElf_found out name (eNum b) hval hU S.num (by rw [e2, S.num]; exact Nat.lt_succ_of_lt v.hstr)
    (by rw [e1]; exact v.hes) (by rw [S.shoff, S.num, e1, Nat.succ_mul]; exact hle)
    (by rw [S.shoff]; exact Nat.le_trans v.hsh (Nat.le_of_add_right_le (Nat.le_add_right _ _)))
    (fun i hi => by
      rw [e3, old i hi]
      exact nameOk_congr (fun k hk => S.low _ hk (outside_ge (Nat.le_trans (by decide) (h62 _ k)))
        (outside_ge (h62 _ k))) hso (v.hnames i hi))
    (by rw [e3, n0]; exact hso) (by rw [e3, n0]; exact hr) (by rw [e3, n0]; exact hname) (by rw [n18, n20]; exact hdat)
  rw [this, n18, n20, S.data]

theorem addElf_sections_preserved (b name payload : Bytes) (v : ValidElf b name) (hsz : b.length + payload.length + 2 ^ 17 < U64) :
    ∃ out, addElf b name payload = .ok out ∧
      ∀ idx, idx < eNum b → idx ≠ eStrndx b →
        64 ≤ secField b idx 0x18 8 → secField b idx 0x18 8 + secField b idx 0x20 8 ≤ eShoff b →
        (secField b idx 0x18 8 + secField b idx 0x20 8 ≤ eNamesOff b + eNamesSize b ∨ eNamesOff b + eNamesSize b ≤ secField b idx 0x18 8) →
        slice out (leVal (slice out (eShoff out + idx * eEntsize b + 0x18) 8)) (secField b idx 0x20 8) =
          slice b (secField b idx 0x18 8) (secField b idx 0x20 8) := by
  obtain ⟨out, T2, hadd, S⟩ := addElf_spec b name payload v hsz
  refine ⟨out, hadd, fun idx hi hne h64 hin hside => ?_⟩
  have hmul := mul_succ_le hi (eEntsize b)
  have hes := v.hes
  -- the offset field of this section in the result's table
  rw [S.shoff, Nat.add_assoc _ (idx * eEntsize b) 0x18,
    slice_congr out T2 _ (idx * eEntsize b + 0x18) 8 fun i hi8 => by
      rw [Nat.add_assoc]; exact S.table (idx * eEntsize b + 0x18 + i) (by omega),
    S.tabOk.2.2.2 idx hi]
  apply slice_congr
  intro i hisz
  rcases hside with hbefore | hafter
  · have h64i : 64 ≤ secField b idx 0x18 8 + i := Nat.le_trans h64 (Nat.le_add_right _ _)
    rw [if_neg (by omega)]
    exact S.low _ (Nat.lt_of_lt_of_le (Nat.add_lt_add_left hisz _) hbefore) (outside_ge (Nat.le_trans (by decide) h64i))
      (outside_ge (Nat.le_trans (by decide) h64i))
  · rw [if_pos ⟨hne, hafter⟩, Nat.add_assoc, Nat.add_comm (name.length + 1) i, ← Nat.add_assoc]
    exact S.mid _ (Nat.le_trans hafter (Nat.le_add_right _ _)) (Nat.lt_of_lt_of_le (Nat.add_lt_add_left hisz _) hin)

end Rj.Exe
