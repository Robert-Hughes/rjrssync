import RjModel.Lemmas.BossTraces
import RjModel.Generated.BehaviourWrites
import RjModel.Generated.ConfirmShape
import RjModel.Model.ConfirmShape
/-! # C03 — nothing on the destination is deleted or overwritten without configured consent -/
namespace Rj.C03

/-- **Error / cancel ⇒ untouched**: whenever a run ends because an applicable behaviour resolved to
`error` or a prompt was cancelled (or could not be shown: an unattended terminal), the destination
has been sent nothing that deletes or overwrites — only `SetRoot`, `GetEntries` and possibly
`CreateRootAncestors` (sent only when the destination root does not exist). -/
theorem C03_error_untouched (w : Wrap) (sc : Scenario) (k : ErrKind) (hk : k.isConsent = true)
    (h : (run w sc).outcome = .err k) : ∀ c ∈ (run w sc).destTrace, c.mutating = false ∨ c = .createRootAncestors := by
  exact (run_before w sc).1 (by rw [h]; exact hk)

/-- **Decisions come first**: the execution phase shows no prompt (and has no behaviour to change: the model's `execPhase`
returns none) — every prompt and every behaviour resolution precedes the first delete/create command of an entry
(`CreateRootAncestors` alone is sent earlier, and only when the destination root does not exist). -/
theorem C03_decide_before_act (sc : Scenario) (ctx : Ctx) (x : XState) (conf : Conf)
    (del : OMap (Details × DelReason)) (cpy : OMap (Details × CopyReason)) :
    (execPhase sc ctx x conf del cpy).prompts = conf.prompts :=
  (execPhase_outcome sc ctx x conf del cpy).2.2

/-- **skip keeps**: with the entry-deletion behaviour `skip` every planned deletion is taken off the
list, nothing is asked, and there is no error. -/
theorem C03_skip_keeps (c : Conf) (h : c.beh.entry = .skip) (items : List (String × (Details × DelReason))) (rm : List String) :
    confirmDeletes c items rm = (none, c, rm ++ items.map (·.1)) := by
  obtain ⟨⟨n, o, sm, en, rt⟩, a, pr⟩ := c
  cases h
  induction items generalizing rm with
  | nil => simp [confirmDeletes]
  | cons it rest ih => simp [confirmDeletes, resolve, ih]

/-- **delete proceeds silently** -/
theorem C03_proceed_no_prompt (c : Conf) (h : c.beh.entry = .proceed) (items : List (String × (Details × DelReason)))
    (rm : List String) :
    confirmDeletes c items rm = (none, c, rm) := by
  obtain ⟨⟨n, o, sm, en, rt⟩, a, pr⟩ := c
  cases h
  induction items generalizing rm with
  | nil => rfl
  | cons it rest ih => simp [confirmDeletes, resolve, ih]

/-- **error stops before anything**: with `error` and at least one planned deletion the pass fails. -/
theorem C03_error_stops (c : Conf) (h : c.beh.entry = .error) (it : String × (Details × DelReason))
    (rest : List (String × (Details × DelReason))) (rm : List String) :
    (confirmDeletes c (it :: rest) rm).1 = some .entryErr := by
  obtain ⟨p, d⟩ := it
  simp [confirmDeletes, resolve, h]

/-- **a cancelled prompt (or an unattended terminal) stops before anything** -/
theorem C03_cancel_stops (c : Conf) (h : c.beh.entry = .prompt) (ha : c.answers = [] ∨ c.answers.head? = some .cancel)
    (it : String × (Details × DelReason)) (rest : List (String × (Details × DelReason))) (rm : List String) :
    (confirmDeletes c (it :: rest) rm).1 = some .entryErr := by
  obtain ⟨p, d⟩ := it
  cases hc : c.answers with
  | nil => simp [confirmDeletes, resolve, h, hc]
  | cons a as =>
    have : a = .cancel := by simpa [hc] using ha
    simp [confirmDeletes, resolve, h, hc, this]

/-- for an existing destination file, per case (newer / older / same time): `error` stops the pass and `skip` takes the entry
off the list; a copy to a path the destination does not hold is not asked about -/
theorem C03_overwrite_needs_overwrite (c : Conf) (p : String) (d : Details) (rest : List (String × (Details × CopyReason)))
    (rm : List String) :
    (c.beh.newer = .error → (confirmCopies c ((p, (d, .destNewer)) :: rest) rm).1 = some .newerErr) ∧
    (c.beh.older = .error → (confirmCopies c ((p, (d, .destOlder)) :: rest) rm).1 = some .olderErr) ∧
    (c.beh.same = .error → (confirmCopies c ((p, (d, .sameTime)) :: rest) rm).1 = some .sameErr) ∧
    (c.beh.newer = .skip → ∃ c', confirmCopies c ((p, (d, .destNewer)) :: rest) rm = confirmCopies c' rest (rm ++ [p])) ∧
    (c.beh.older = .skip → ∃ c', confirmCopies c ((p, (d, .destOlder)) :: rest) rm = confirmCopies c' rest (rm ++ [p])) ∧
    (c.beh.same = .skip → ∃ c', confirmCopies c ((p, (d, .sameTime)) :: rest) rm = confirmCopies c' rest (rm ++ [p])) ∧
    (confirmCopies c ((p, (d, .notOnDest)) :: rest) rm = confirmCopies c rest rm) := by
  refine ⟨?_, ?_, ?_, ?_, ?_, ?_, rfl⟩
  · intro h; simp [confirmCopies, resolve, h]
  · intro h; simp [confirmCopies, resolve, h]
  · intro h; simp [confirmCopies, resolve, h]
  · intro h; exact ⟨{ c with beh := { c.beh with newer := .skip } }, by simp [confirmCopies, resolve, h]⟩
  · intro h; exact ⟨{ c with beh := { c.beh with older := .skip } }, by simp [confirmCopies, resolve, h]⟩
  · intro h; exact ⟨{ c with beh := { c.beh with same := .skip } }, by simp [confirmCopies, resolve, h]⟩

/-- **A remembered answer stays in its own category**: the deletion pass changes only the
entry-deletion behaviour.  (The like of the copy pass - that it never changes the entry-deletion or the root behaviour -
is not stated.) -/
theorem C03_remember_scoped_deletes (c : Conf) (items : List (String × (Details × DelReason))) (rm : List String) :
    let c' := (confirmDeletes c items rm).2.1
    c'.beh.newer = c.beh.newer ∧ c'.beh.older = c.beh.older ∧ c'.beh.same = c.beh.same ∧ c'.beh.root = c.beh.root := by
  induction items generalizing c rm with
  | nil => simp [confirmDeletes]
  | cons it rest ih =>
    obtain ⟨p, d⟩ := it
    simp only [confirmDeletes]
    generalize resolve c.beh.entry c.answers true = r
    obtain ⟨res, b', ans, shown⟩ := r
    simp only
    cases res with
    | proceed => exact ih _ _
    | skip => exact ih _ _
    | prompt => simp
    | error => simp

/-- the root prompt offers no "all occurrences": it never changes a remembered behaviour -/
theorem C03_root_gate_scoped (c : Conf) : (rootGate c).2.beh = c.beh := by
  simp only [rootGate]
  generalize resolve c.beh.root c.answers false = r
  obtain ⟨res, b', ans, shown⟩ := r
  cases res <;> rfl

/-- the root gate's verdict per behaviour (`some false`: `sync_impl` skips the whole sync with `Ok`; `none`: an error;
`some true`: go on); an unanswered prompt counts as cancelled -/
theorem C03_root_gate (c : Conf) :
    (c.beh.root = .skip → (rootGate c).1 = some false) ∧ (c.beh.root = .error → (rootGate c).1 = none) ∧
    (c.beh.root = .proceed → (rootGate c).1 = some true) ∧
    (c.beh.root = .prompt → c.answers = [] → (rootGate c).1 = none) := by
  refine ⟨fun h => ?_, fun h => ?_, fun h => ?_, fun h ha => ?_⟩ <;> simp [rootGate, resolve, *]

/-- Non-vacuity: prompt with answers "skip this one, delete all": first entry kept, the rest deleted,
one behaviour remembered. -/
example :
    let c : Conf := ⟨⟨.prompt, .proceed, .skip, .prompt, .prompt⟩, [.skipOnce, .doAll], []⟩
    let r := confirmDeletes c [("a", (.folder, .notOnSource)), ("b", (.folder, .notOnSource)), ("c", (.folder, .notOnSource))] []
    r.1 = none ∧ r.2.2 = ["a"] ∧ r.2.1.beh.entry = .proceed ∧ r.2.1.prompts = [.entry, .entry] ∧ r.2.1.beh.newer = .prompt := by
  decide

/-- **The behaviours in force change only by a remembered prompt answer** (extracted from boss_sync.rs on every run): the
only assignments to a behaviour field of the sync context are the four
`if let Some(b) = prompt_result.remembered_behaviour { ctx.<field> = b; }` inside the resolution of that same field - which is
what the model's `Conf` does (`C03_root_gate_scoped`: nothing else, in particular not the root-deletion gate, rewrites a
behaviour after `resolve_spec`). -/
theorem C03_behaviours_change_only_by_remembered_answers :
    Generated.behaviourWrites =
      [("dest_entry_needs_deleting_behaviour", "remembered"), ("dest_file_newer_behaviour", "remembered"),
       ("dest_file_older_behaviour", "remembered"), ("files_same_time_behaviour", "remembered")] := by decide

/-- **`confirm_actions` still has the shape the model was written against** (a pin, not a translation: the normalised text of
the function, extracted on every run, equals the copy kept next to the model in `Model/ConfirmShape.lean`).  The theorems
above are about `confirmDeletes` / `confirmCopies` / `rootGate`; the L2 consent stream compares them with the function's
behaviour; this obligation makes any edit of the function visible even where the stream's scenarios do not reach. -/
theorem C03_confirm_actions_shape : Generated.confirmActionsShape = confirmActionsShapeRef := by rfl

end Rj.C03
