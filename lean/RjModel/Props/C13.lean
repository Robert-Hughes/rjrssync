import RjModel.Lemmas.PlannerInv
import RjModel.Generated.Decisions
import RjModel.Generated.ProcessEntries
import RjModel.Generated.OrderedMapSrc
/-! # C13 — what gets deleted and copied does not depend on message timing

Model objects: `prun c PState.init evs` is `query_entries` fed with the merged arrival sequence `evs`
of the two listings (`srcOf evs`, `dstOf evs`); `del`/`cpy` are `to_delete`/`to_copy`. -/
namespace Rj.C13

/-- **Closed form, for every interleaving.**  Whatever the arrival order of the two listings (each
path at most once per side), the planner does not panic and its final maps are the order-free closed
form of the two listings: `to_delete p` and `to_copy p` depend only on what the source and the
destination hold at `p`. -/
theorem C13_closed_form (c : PCfg) (evs : List Ev)
    (hs : ((srcOf evs).map (·.1)).Nodup) (hd : ((dstOf evs).map (·.1)).Nodup) :
    ∃ s, prun c PState.init evs = some s ∧
      (∀ p, s.del.get p = delSpec c (lookup (srcOf evs).reverse) (lookup (dstOf evs).reverse) p) ∧
      (∀ p, s.cpy.get p = cpySpec c (lookup (srcOf evs).reverse) (lookup (dstOf evs).reverse) p) := by
  obtain ⟨s, h, hp⟩ := prun_init c evs hs hd
  exact ⟨s, h, fun p => by rw [hp.inv.1, hp.src, hp.dst], fun p => by rw [hp.inv.2, hp.src, hp.dst]⟩

/-- **Independence of timing and of sibling order.**  Two arrival sequences whose source listings
are permutations of one another and whose destination listings are permutations of one another
(this covers every interleaving of the two streams *and* every sibling order inside a listing)
produce the same `to_delete` and `to_copy` maps — the same entries with the same reasons. -/
theorem C13_interleaving (c : PCfg) (evs₁ evs₂ : List Ev)
    (hs : ((srcOf evs₁).map (·.1)).Nodup) (hd : ((dstOf evs₁).map (·.1)).Nodup)
    (ps : (srcOf evs₁).Perm (srcOf evs₂)) (pd : (dstOf evs₁).Perm (dstOf evs₂)) :
    ∃ s₁ s₂, prun c PState.init evs₁ = some s₁ ∧ prun c PState.init evs₂ = some s₂ ∧
      ∀ p, s₁.del.get p = s₂.del.get p ∧ s₁.cpy.get p = s₂.cpy.get p := by
  obtain ⟨s₁, h1, d1, c1⟩ := C13_closed_form c evs₁ hs hd
  obtain ⟨s₂, h2, d2, c2⟩ := C13_closed_form c evs₂ ((ps.map (·.1)).nodup_iff.mp hs) ((pd.map (·.1)).nodup_iff.mp hd)
  refine ⟨s₁, s₂, h1, h2, fun p => ?_⟩
  rw [d1, d2, c1, c2, lookup_reverse_perm ps hs, lookup_reverse_perm pd hd]
  exact ⟨rfl, rfl⟩

/-- **Order of the two action lists.**  The deletions are iterated in *reversed* destination arrival
order and the copies in source arrival order (as sub-sequences: relative order is preserved), and no
entry is iterated twice.  Since a listing reports a folder before its contents (C17), every entry is
deleted before its parent folder and every folder is created before its contents. -/
theorem C13_order (c : PCfg) (evs : List Ev) (s : PState) (h : prun c PState.init evs = some s)
    (hs : ((srcOf evs).map (·.1)).Nodup) (hd : ((dstOf evs).map (·.1)).Nodup) :
    s.del.reverseOrder.keys.Sublist ((dstOf evs).map (·.1)).reverse ∧
    s.cpy.keys.Sublist ((srcOf evs).map (·.1)) ∧
    s.del.reverseOrder.keys.Nodup ∧ s.cpy.keys.Nodup := by
  obtain ⟨s', h', hp⟩ := prun_init c evs hs hd
  cases h.symm.trans h'
  have k1 := (s.del.reverseOrder.keys_eq ▸ List.filter_sublist).trans hp.del.sub.reverse
  have k2 := (s.cpy.keys_eq ▸ List.filter_sublist).trans hp.cpy.sub
  exact ⟨k1, k2, k1.nodup ((List.reverse_perm _).nodup_iff.mpr hd), k2.nodup hs⟩

/-- Non-vacuity: a concrete interleaving (file↔folder swap at `d`, a retimed file, an extra entry)
meets the hypotheses, and the plan is what one expects. -/
example :
    let c : PCfg := ⟨true, false⟩
    let evs := [Ev.dst "a" (.file 5 1), .src "a" (.file 7 1), .src "d" .folder, .dst "d" (.file 1 1),
                .dst "x" .folder, .src "d/f" (.file 1 1)]
    ((srcOf evs).map (·.1)).Nodup ∧ ((dstOf evs).map (·.1)).Nodup ∧
    (prun c PState.init evs).map (fun s => (s.del.reverseOrder.keys, s.cpy.keys)) = some (["x", "d"], ["a", "d", "d/f"]) := by
  decide

/-- **`needs_delete` of `boss_sync.rs`, translated from the source on every run** (`extract/translate.py`: a Rust-to-Lean
translator for the subset the function is written in - `match` on `EntryDetails`, `if`/`else if` over `!=`, `&&`; anything
outside the subset makes `decisionsTranslated` false), **is the model's `needsDelete`** - for every configuration and every
pair of entries.  The planner theorems (C13, C01, C03, C04, C12) speak about `needsDelete`; through this obligation they speak
about the function in the file. -/
theorem C13_needs_delete_is_the_sources : Generated.decisionsTranslated = true ∧
    ∀ c s d, Generated.needsDeleteSrc c s d = needsDelete c s d := by
  refine ⟨by decide, ?_⟩
  intro c s d
  cases s <;> cases d <;> simp [Generated.needsDeleteSrc, needsDelete]

/-- **`needs_copy`, translated, is the model's `needsCopy`** wherever it is called (the kinds agree: `needs_delete` said no);
the `panic!("Wrong entry type")` arm - outer `none` of the translation - is then unreachable (a C18 guard). -/
theorem C13_needs_copy_is_the_sources (c : PCfg) (s d : Details) (h : needsDelete c s d = false) :
    Generated.needsCopySrc c s d = some (needsCopy c s d) := by
  -- folders and links: both sides compute to "no copy"; different kinds: excluded by `h`; two files are left
  cases s <;> cases d <;> first | rfl | cases h
  simp only [Generated.needsCopySrc, needsCopy, Option.bind]
  split <;> split <;> rfl

/-- **`process_src_entry` and `process_dest_entry`, translated statement by statement from boss_sync.rs on every run, are
the model's `pstep`** - for every configuration, every planner state, every path and entry, including the panics (`none`).
The statement translator (extract/translate.py, class `S`) handles: the statistics `match` (only `ctx.stats.*` is touched:
translated to nothing), the containers' `add` / `update` / `remove`, `match <container>.lookup(&p)`, `if needs_delete(..)`,
`if let Some(r) = needs_copy(..)`; it also checks the four call sites in `query_entries` (which container is passed for which
parameter).  Anything else makes `processTranslated` false.  The order of the statements matters (`dest_entries.add` before
the lookup of the source; `to_delete.update` on a key that must be there) and is part of what is compared. -/
theorem C13_process_entries_are_the_sources : Generated.processTranslated = true ∧
    (∀ c s p e, Generated.processSrcEntrySrc c s p e = pstep c s (.src p e)) ∧
    (∀ c s p d, Generated.processDestEntrySrc c s p d = pstep c s (.dst p d)) := by
  refine ⟨by decide, fun c s p e => ?_, fun c s p d => ?_⟩
  · simp only [Generated.processSrcEntrySrc, pstep, C13_needs_delete_is_the_sources.2]
    cases s.dst.get p with
    | none => rfl
    | some d =>
      dsimp only
      cases hd : needsDelete c e d with
      | true => cases s.del.update p (d, .incompatible) <;> rfl
      | false =>
        simp only [C13_needs_copy_is_the_sources c e d hd]
        cases needsCopy c e d <;> rfl
  · simp only [Generated.processDestEntrySrc, pstep, C13_needs_delete_is_the_sources.2, Option.bind]
    cases s.src.get p with
    | none => rfl
    | some e =>
      dsimp only
      cases hd : needsDelete c e d with
      | true => rfl
      | false =>
        simp only [C13_needs_copy_is_the_sources c e d hd]
        cases needsCopy c e d <;> rfl

/-- the loop of `query_entries` over the translated functions -/
def prunSrc (c : PCfg) : PState → List Ev → Option PState
  | s, [] => some s
  | s, .src p e :: es => (Generated.processSrcEntrySrc c s p e).bind fun s' => prunSrc c s' es
  | s, .dst p d :: es => (Generated.processDestEntrySrc c s p d).bind fun s' => prunSrc c s' es

/-- **Every planner theorem speaks about the translated functions**: running the arrival sequence through the functions
translated from the file is `prun` - so `C13_closed_form`, the order-independence corollaries and the C01 / C03 / C04 / C12
theorems that go through `prun` hold of `process_src_entry` / `process_dest_entry` as they are written today. -/
theorem C13_translated_run_is_prun (c : PCfg) (s : PState) (evs : List Ev) : prunSrc c s evs = prun c s evs := by
  induction evs generalizing s with
  | nil => rfl
  | cons ev es ih =>
    cases ev with
    | src p e => simp only [prunSrc, prun, (C13_process_entries_are_the_sources).2.1, ih]
    | dst p d => simp only [prunSrc, prun, (C13_process_entries_are_the_sources).2.2, ih]

/-- **`ordered_map.rs`, translated on every run, is the model's `OMap`**: every method body is read as a sequence of statements
out of a small table (`Vec::push` / `reverse` / `iter().filter_map`, `HashMap::insert` / `remove` / `get` /
`get_mut().unwrap()`; the `HashMap` itself is the association list with `lookup` / `erase` - that reading is the trusted
part) and the resulting functions are the model's, for every map, key and value; `update` panics (`none`) exactly when the
key is absent. -/
theorem C13_ordered_map_is_the_sources {V : Type} : Generated.orderedMapTranslated = true ∧
    (∀ (m : OMap V) k v, Generated.omAdd m k v = some (m.add k v)) ∧
    (∀ (m : OMap V) k, Generated.omRemove m k = some (m.remove k)) ∧
    (∀ (m : OMap V) k v, Generated.omUpdate m k v = m.update k v) ∧
    (∀ (m : OMap V), Generated.omReverse m = some m.reverseOrder) ∧
    (∀ (m : OMap V) k, Generated.omLookup m k = m.get k) ∧
    (∀ (m : OMap V), Generated.omIter m = m.iter) := by
  refine ⟨by decide, fun _ _ _ => rfl, fun _ _ => rfl, fun m k v => ?_, fun _ => rfl, fun _ _ => rfl, fun m => ?_⟩
  · unfold Generated.omUpdate OMap.update OMap.get
    split <;> rfl
  · unfold Generated.omIter OMap.iter OMap.get
    congr 1; funext k
    cases lookup m.map k <;> rfl

/-! The translated functions compute: a file on the source alone is copied; a file that is the same on both sides is neither
copied nor deleted, an extra destination folder is deleted; a file in the way of a folder is deleted as incompatible and the
folder copied (evaluated on the definitions translated from the source on this run). -/

example : ((Generated.processSrcEntrySrc ⟨true, false⟩ PState.init "a" (.file 5 3)).map (fun s => s.cpy.keys)) = some ["a"] := by
  decide

example :
    ((prunSrc ⟨true, false⟩ PState.init [.dst "a" (.file 5 3), .src "a" (.file 5 3), .dst "b" .folder]).map
      (fun s => (s.cpy.keys, s.del.keys))) = some ([], ["b"]) := by
  decide

example :
    ((prunSrc ⟨true, false⟩ PState.init [.src "a" .folder, .dst "a" (.file 5 3)]).map
      (fun s => (s.cpy.keys, s.del.iter.map (·.2.2)))) = some (["a"], [.incompatible]) := by
  decide

end Rj.C13
