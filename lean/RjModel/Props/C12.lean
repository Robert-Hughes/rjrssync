import RjModel.Lemmas.DoerLemmas
import RjModel.Lemmas.SyncLemmas
import RjModel.Lemmas.ListingLemmas
import RjModel.Lemmas.LinkLemmas
import RjModel.Lemmas.PlannerInv
import RjModel.Generated.Walker
import RjModel.Model.Confirm
import RjModel.Generated.RootRelSrc
import RjModel.Generated.ConfirmShape
import RjModel.Model.ConfirmShape
/-! # C12 — symlinks are copied as links and never followed

Proved about the model (for every tree, every link text as a byte string, every command sequence):
* the listing treats a link as a leaf: the recursion into sub-folders is never consulted for an entry
  that is a symlink, whatever it points at (`C12_symlink_is_leaf`); the walker's source text has the
  recursion test on the un-followed file type (extracted on every run);
* deleting a link (`DeleteSymlink`, and `DeleteFile` applied to a link) and creating one change
  nothing but the link's own path (`C12_delete_link_local`, `C12_create_link_local`); a created link
  holds exactly the text `writeLinkB` gives;
* a link present on both sides is re-created iff its text differs or (the destination distinguishes
  file/folder links and the kinds differ) (`C12_recreate_iff`);
* text: a text that `RootRelativePath::try_from` accepts is sent in its normal form (which has the same
  path components) and written with the destination's separator; any other text — absolute, with a
  backslash component, not UTF-8 — is carried byte for byte (`C12_text`, `C12_verbatim`).
* the destination half of a sync on the file-system model never passes *through* a link (the model's `escape` outcome), with
  any filters (`C12_whole_run_never_through_a_link`); `is_inside` and the doer's `exec_command` are as the model was written
  against (`C12_is_inside_is_the_sources`, `C12_exec_command_shape`).
Validated rather than proved: the same for the commands of a real boss-driven run: the L2 oracle on the implementation's
traces, L3 with the doer model and L4 snapshots of populated decoy targets. -/
namespace Rj.C12

/-- the worker loop of the walker recurses on the un-followed file type (`entry.file_type()?.is_dir()`) -/
theorem C12_walker_unfollowed : Generated.walkFeatures.recursesOnUnfollowedType = true := by decide

/-- **A link is a leaf of the listing.**  Whatever the link's text, and whatever lies where it points,
the result of listing an entry that is a symlink does not depend on what listing "inside" it would
give: the sub-folder listing `sub` is never consulted.  (The same holds for files.) -/
theorem C12_symlink_is_leaf (fs : FS) (abs : List Comp) (keep : String → Bool) (root : FPath)
    (sub sub' : FPath → List (String × Details) × List ErrClass)
    (acc : List (String × Details) × List ErrClass) (p : FPath) (text : List UInt8) :
    listStep fs abs keep root sub acc (p, .symlink text) = listStep fs abs keep root sub' acc (p, .symlink text) := by
  simp only [listStep, detailsOf]

/-- a link that the filters keep contributes exactly one entry: its own, carrying its text as read -/
theorem C12_link_entry (fs : FS) (abs : List Comp) (keep : String → Bool) (root : FPath)
    (sub : FPath → List (String × Details) × List ErrClass)
    (acc : List (String × Details) × List ErrClass) (p : FPath) (text : List UInt8)
    (hname : (p.getLast?.getD []).contains '\\' = false) (hkeep : keep (relString root p) = true) :
    listStep fs abs keep root sub acc (p, .symlink text) =
      (acc.1 ++ [(relString root p, .symlink (fs.statKind abs p) (readLinkB text))], acc.2) := by
  have hn : ¬ '\\' ∈ p.getLast?.getD [] := by simpa using hname
  simp [listStep, detailsOf, hn, hkeep]

/-- an excluded entry (of any kind, a populated folder included) is neither reported nor descended -/
theorem C12_excluded_hidden (fs : FS) (abs : List Comp) (keep : String → Bool) (root : FPath)
    (sub : FPath → List (String × Details) × List ErrClass)
    (acc : List (String × Details) × List ErrClass) (e : FPath × Node)
    (hname : (e.1.getLast?.getD []).contains '\\' = false) (hkeep : keep (relString root e.1) = false) :
    listStep fs abs keep root sub acc e = acc := by
  have hn : ¬ '\\' ∈ e.1.getLast?.getD [] := by simpa using hname
  simp [listStep, hn, hkeep]

/-- **Deleting a link removes only the link**: a `DeleteSymlink` (or a `DeleteFile` naming a link) that the
doer executes changes no path other than the one it names. -/
theorem C12_delete_link_local (k : ChunkCfg) (keepOf : List FilterSpec → String → Bool) (st st' : DoerSt)
    (p : String) (kd : SymKind) (out : List Resp)
    (h : execCmd k keepOf st (.deleteSymlink p kd) = .ok st' out) :
    st'.fs = st.fs ∨ ∃ full, fullOf st p = some full ∧ ChangesOnly st st' full :=
  execCmd_local rfl h

/-- **Creating a link touches only the link's path** -/
theorem C12_create_link_local (k : ChunkCfg) (keepOf : List FilterSpec → String → Bool) (st st' : DoerSt)
    (p : String) (kd : SymKind) (t : Target) (out : List Resp)
    (h : execCmd k keepOf st (.createSymlink p kd t) = .ok st' out) :
    st'.fs = st.fs ∨ ∃ full, fullOf st p = some full ∧ ChangesOnly st st' full :=
  execCmd_local rfl h

/-- a successful `symlink` call stores exactly the given text at the path -/
theorem C12_created_text (fs fs' : FS) (p : FPath) (text : List UInt8) (h : fs.mksymlink p text = .ok fs') :
    fs'.get p = some (.symlink text) := by
  obtain ⟨hp, rfl⟩ := mksymlink_ok_eq h
  simp [FS.get_set hp]

/-- **Re-created iff the text changed** (or, where the destination distinguishes file and folder
links, the kind): for a link on both sides the plan holds a deletion and a creation for it exactly then. -/
theorem C12_recreate_iff (c : PCfg) (src dst : String → Option Details) (p : String)
    (sk dk : SymKind) (st dt : Target) (hs : src p = some (.symlink sk st)) (hd : dst p = some (.symlink dk dt)) :
    ((delSpec c src dst p).isSome ↔ (st ≠ dt ∨ (sk ≠ dk ∧ c.destDiff = true))) ∧
    ((cpySpec c src dst p).isSome ↔ (st ≠ dt ∨ (sk ≠ dk ∧ c.destDiff = true))) := by
  simp only [delSpec, cpySpec, hs, hd, needsDelete, needsCopy]
  by_cases h1 : st = dt <;> by_cases h2 : sk = dk <;> by_cases hdiff : c.destDiff = true <;> simp [h1, h2, hdiff]

/-- **Text**: a link text is either carried verbatim, byte for byte (absolute, a component with a
backslash, not UTF-8), or it is valid UTF-8, accepted, and sent in its normal form … -/
theorem C12_text (b : List UInt8) :
    readLinkB b = .notNormalized b ∨
    ∃ t, decodeUtf8 b = some t ∧ refused t = false ∧ readLinkB b = .normalized (String.ofList (normalForm t)) := by
  unfold readLinkB
  cases h : decodeUtf8 b with
  | none => simp
  | some t =>
    by_cases hr : refused t = true
    · simp [hr]
    · right; exact ⟨t, rfl, by simpa using hr, by simp [hr]⟩

/-- … whose path components are those of the original text (only redundant separators and `.` go) … -/
theorem C12_normal_form_components (t : List Char) : components (normalForm t) = components t :=
  components_normalForm t

/-- … and is written with the destination's separator; verbatim text is written as it is. -/
theorem C12_verbatim (sep : Char) (b : List UInt8) : writeLinkB sep (.notNormalized b) = b := rfl

theorem C12_written_separator (sep : Char) (s : String) :
    writeLinkB sep (.normalized s) = utf8 (s.toList.map fun c => if c = '/' then sep else c) := rfl

/-- Non-vacuity: concrete texts of every class, as bytes: `a//b/./c/` is sent as `a/b/c`; an absolute
text, one with a backslash component and one that is not UTF-8 are carried verbatim. -/
example :
    readLinkB (utf8 "a//b/./c/".toList) = .normalized "a/b/c" ∧
    readLinkB (utf8 "./x".toList) = .normalized "./x" ∧
    readLinkB (utf8 "/abs//x/".toList) = .notNormalized (utf8 "/abs//x/".toList) ∧
    readLinkB (utf8 "a\\b/c".toList) = .notNormalized (utf8 "a\\b/c".toList) ∧
    readLinkB [0x63, 0x61, 0x66, 0xe9, 0x2f, 0x78] = .notNormalized [0x63, 0x61, 0x66, 0xe9, 0x2f, 0x78] := by
  decide

/-- **Nothing is reached through a link in a whole run** (destination half, on the file-system model): for every
destination tree — with symlinks to anything, anywhere — every source tree and every filter verdict, with the model's own
(filtered) listings, the sync ends `ok` or `err` and never `escape`, the outcome the model gives whenever a call would make
the kernel pass through a symlink inside the tree (an ancestor of the operated path, or its final component for the calls
that follow).  Also when a deletion fails half-way. -/
theorem C12_whole_run_never_through_a_link (keep : FPath → Bool) (S D : FS) (rs rd : FPath) (fS fD : Nat)
    (hS : SrcTreeOk S rs fS) (hD : D.Wf)
    (hroot : D.get rd = some .folder) (hanc : ∀ k, k < rd.length → D.get (rd.take k) = some .folder)
    (hclosed : ∀ p, p ≠ [] → D.get (rd ++ p) ≠ none → D.get (rd ++ p.dropLast) = some .folder)
    (hfuel : ∀ p, D.get (rd ++ p) ≠ none → p.length ≤ fD) :
    syncDest D rd (srcOfFS S rs) (lsOfFSF keep S rs fS)
      ((listNodesF keep rd D fD rd).map fun e => (e.1.drop rd.length, e.2)) ≠ .escape :=
  syncDest_ne_escape (destWF_of_listNodesF keep D hD rd hroot hanc hclosed fD hfuel) (srcWF_of_treeF keep S rs fS hS)

/-- **`RootRelativePath::is_inside`, translated from root_relative_path.rs on every run, is the model's `isInside`** (the
set of methods of the type, the struct, `root()`, `is_root` and `regex_set_matches` are checked by the same extractor; a new
method - one the model lacks - or a body outside the atom table makes `rootRelTranslated` false).  `isInside` decides which
copies a kept destination entry blocks (`blockedCopies`): that nothing is created beneath a kept link rests on it. -/
theorem C12_is_inside_is_the_sources : Generated.rootRelTranslated = true ∧ ∀ k f, Generated.isInsideSrc k f = isInside k f := by
  refine ⟨by decide, ?_⟩
  intro k f
  simp only [Generated.isInsideSrc, Generated.isRootSrc, isInside]
  by_cases h : f = ""
  · by_cases hk : k = "" <;> simp [h, hk]
  · simp [h]

/-- **The doer's `exec_command` still has the shape the doer model was written against** (a pin: the normalised text of the
function in doer.rs, extracted on every run, equals the copy in `Model/ConfirmShape.lean`).  The doer model is tied to the
real doer by the L3 / `fsx` streams; this makes every edit of the function visible, also where the streams do not reach. -/
theorem C12_exec_command_shape : Generated.execCommandShape = execCommandShapeRef := by rfl

end Rj.C12
