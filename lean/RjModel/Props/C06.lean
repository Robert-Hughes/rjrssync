import RjModel.Model.Regex
import RjModel.Lemmas.BossTraces
import RjModel.Lemmas.ListingLemmas
import RjModel.Generated.Constants
import RjModel.Generated.FilterLoop
/-! # C06 — filters select by whole-path match, last match wins, same on both sides -/
namespace Rj.C06

theorem mem_dedup {l : List Nat} {x : Nat} : x ∈ dedup l ↔ x ∈ l := by
  induction l with
  | nil => rfl
  | cons y ys ih =>
    simp only [dedup]
    split
    · next h => rw [ih, List.mem_cons]; exact ⟨.inr, fun h' => h'.elim (· ▸ by simpa using h) id⟩
    · simp [ih]

theorem dedup_isEmpty (l : List Nat) : (dedup l).isEmpty = l.isEmpty := by
  cases l with
  | nil => rfl
  | cons y ys =>
    have : y ∈ dedup (y :: ys) := mem_dedup.mpr (List.mem_cons_self ..)
    cases hd : dedup (y :: ys) with
    | nil => rw [hd] at this; cases this
    | cons _ _ => rfl

/-- from position `i` the anchored pattern `^(?:p)$` matches iff `i = 0` and `p` can end at the end of the string -/
theorem ends_wrapGroup_isEmpty (r : Re) (s : Array Char) (i : Nat) :
    (ends false (wrapGroup r) s i).isEmpty = !(decide (i = 0) && (ends false r s 0).contains s.size) := by
  by_cases hi : i = 0
  · subst hi
    simp only [wrapGroup, ends, ↓reduceIte, List.flatMap_cons, List.flatMap_nil, List.append_nil, dedup_isEmpty]
    rw [Bool.eq_iff_iff]
    simp [List.isEmpty_iff, List.flatMap_eq_nil_iff]
    exact ⟨fun h hm => h _ hm rfl, fun h x hx e => h (e ▸ hx)⟩
  · simp [wrapGroup, ends, hi, dedup]

/-- **Anchoring with a non-capturing group**: for *every* regex (literals, classes, quantifiers,
groups, top-level and nested alternation, inner anchors, case-insensitive groups) and every string,
an unanchored search for `^(?:p)$` succeeds iff `p` matches the entire string. -/
theorem C06_anchoring_group (r : Re) (s : Array Char) : search (wrapGroup r) s = fullMatch r s := by
  simp only [search, fullMatch, ends_wrapGroup_isEmpty, Bool.not_not]
  rw [Bool.eq_iff_iff, List.any_eq_true]
  exact ⟨fun ⟨_, _, h⟩ => (Bool.and_eq_true_iff.mp h).2, fun h => ⟨0, by simp, by simpa using h⟩⟩

/-- **Anchoring, for the wrap the current source applies** (`Generated.filterWrapPre/Post` are
extracted from `compile_filters` on every run): a filter matches iff its pattern matches the entire
normalised path. -/
theorem C06_anchoring (r : Re) (s : Array Char) :
    (wrapOf Generated.filterWrapPre Generated.filterWrapPost r).map (search · s) = some (fullMatch r s) := by
  have h : wrapOf Generated.filterWrapPre Generated.filterWrapPost r = some (wrapGroup r) := by
    simp [wrapOf, Generated.filterWrapPre, Generated.filterWrapPost]
  rw [h]; simp [C06_anchoring_group]

def lastMatch : List (Bool × Bool) → Option Bool
  | [] => none
  | (incl, m) :: rest =>
    match lastMatch rest with
    | some x => some x
    | none => if m then some incl else none

theorem foldl_lastMatch (l : List (Bool × Bool)) (acc : Bool) :
    l.foldl (fun acc (p : Bool × Bool) => if p.2 then p.1 else acc) acc = (lastMatch l).getD acc := by
  induction l generalizing acc with
  | nil => rfl
  | cons x xs ih =>
    obtain ⟨incl, m⟩ := x
    simp only [List.foldl_cons, ih, lastMatch]
    cases lastMatch xs with
    | some y => rfl
    | none => cases m <;> simp

/-- **Evaluation order** (for a path other than the root, which is always included: `C06_root_included`): the last
filter whose regex matched decides; if none matched, the verdict is the opposite of the first filter's sign (include when
the list is empty). -/
theorem C06_fold_rule (kinds matched : List Bool) :
    foldFilters kinds matched =
      (lastMatch (kinds.zip matched)).getD (match kinds.head? with | some true => false | _ => true) := by
  unfold foldFilters
  rw [foldl_lastMatch]
  cases kinds.head? with
  | none => rfl
  | some b => cases b <;> rfl

theorem C06_root_included (fs : List (Bool × Re)) : applyFilters fs #[] = true := by
  simp [applyFilters]

/-- The wrap *without* the group is not whole-path matching: `-build|dist` also matches
`builder.txt` (the first alternative is only anchored at the start) although the pattern does not
match that entire path.  This is the defect repaired in `/repo` (see known_findings.json). -/
theorem C06_alternation_witness :
    let r : Re := .alt (.cat (.chr 'b') (.cat (.chr 'u') (.cat (.chr 'i') (.cat (.chr 'l') (.chr 'd')))))
                       (.cat (.chr 'd') (.cat (.chr 'i') (.cat (.chr 's') (.chr 't'))))
    let s : Array Char := #['b', 'u', 'i', 'l', 'd', 'e', 'r']
    search (wrapText r) s = true ∧ fullMatch r s = false := by
  decide

/-- Non-vacuity of the fold rule: `+.*  -build/.*  +build/output.exe` on `build/output.exe`. -/
example : foldFilters [true, false, true] [true, true, true] = true ∧
          foldFilters [true, false, true] [true, true, false] = false ∧
          foldFilters [true, false, true] [false, false, false] = false ∧
          foldFilters [false] [false] = true := by decide

/-- **Same on both sides**: whatever the scenario (roots of any kind, any replies, behaviours, answers,
dry run or not), every `GetEntries` the boss sends — to the source doer or to the destination doer —
carries the user's complete filter list, each pattern wrapped by the anchoring that `compile_filters`
applies; so both doers evaluate the same list, and `apply_filters` is a function of (path, list) only. -/
theorem C06_same_filters (w : Wrap) (sc : Scenario) (c : Cmd) (f : List FilterSpec)
    (hc : c ∈ (run w sc).srcTrace ∨ c ∈ (run w sc).destTrace) (hf : c = .getEntries f) :
    compileFilters w.pre w.post sc.filters = some f := by
  -- the same predicate on both sides: a `GetEntries` carries the compiled list
  let P : Cmd → Prop := fun c => ∀ f, c = .getEntries f → compileFilters w.pre w.post sc.filters = some f
  have A := run_ok (PS := P) (PD := P) w sc
    { sSetRoot := fun _ _ h => by cases h
      sGetEntries := fun _ hF _ h => by cases h; exact hF
      sGetFile := fun _ _ _ h => by cases h
      dSetRoot := fun _ _ h => by cases h
      dGetEntries := fun _ hF _ h => by cases h; exact hF
      dMarker := fun _ _ h => by cases h
      dMutating := fun _ c hm _ h => by subst h; simp [Cmd.mutating] at hm }
  exact hc.elim (A.1 c · f hf) (A.2 c · f hf)

theorem compileFilters_signs {pre post : String} {fs : List String} {out : List FilterSpec}
    (h : compileFilters pre post fs = some out) :
    out.map (·.incl) = fs.map fun f => decide (f.toList.head? = some '+') := by
  induction fs generalizing out with
  | nil => cases h; rfl
  | cons x xs ih =>
    simp only [compileFilters, Option.bind_eq_bind, Option.bind_eq_some_iff, Option.pure_def, Option.some.injEq] at h
    obtain ⟨y, hy, ys, hys, rfl⟩ := h
    simp only [List.map_cons, ih hys, List.cons.injEq, and_true]
    unfold compileFilter at hy
    split at hy <;> cases hy <;> simp [*]

/-- the compiled list keeps number, order and signs of the user's filters -/
theorem C06_compile_signs (pre post : String) (fs : List String) (out : List FilterSpec)
    (h : compileFilters pre post fs = some out) :
    out.length = fs.length ∧ ∀ i (hi : i < out.length) (hj : i < fs.length),
      (out[i]).incl = ((fs[i]).toList.head? = some '+') := by
  have hm := compileFilters_signs h
  refine ⟨by simpa using congrArg List.length hm, fun i hi hj => ?_⟩
  have := congrArg (·[i]?) hm
  simp only [List.getElem?_map, List.getElem?_eq_getElem hi, List.getElem?_eq_getElem hj, Option.map_some,
    Option.some.injEq] at this
  simp [this]

/-- the verdict of a compiled filter list on a relative component path: `apply_filters` on the `/`-joined path -/
def keepOf (fs : List (Bool × Re)) (p : FPath) : Bool := applyFilters fs (joinSlash p).toArray

/-- **What the filters exclude is untouched on the destination, what they include is mirrored** — for the verdict function of
*any* compiled filter list, evaluated the same on both sides (`C06_same_filters`), with the walk not entering an excluded
folder: the destination half of a sync, on the two trees' own filtered listings, reaches the mirror state at every path the
walk reaches and leaves every other path below the destination root exactly as it was (given that no folder the plan deletes
holds an excluded entry: that run fails instead, `C07_hidden_entry_fails_fs`). -/
theorem C06_excluded_untouched_included_mirrored (fs : List (Bool × Re)) (S D : FS) (rs rd : FPath) (fS fD : Nat)
    (hS : SrcTreeOk S rs fS) (hD : D.Wf)
    (hroot : D.get rd = some .folder) (hanc : ∀ k, k < rd.length → D.get (rd.take k) = some .folder)
    (hclosed : ∀ p, p ≠ [] → D.get (rd ++ p) ≠ none → D.get (rd ++ p.dropLast) = some .folder)
    (hfuel : ∀ p, D.get (rd ++ p) ≠ none → p.length ≤ fD)
    (hsafe : ∀ p c n, (p, Node.folder) ∈ planDel (srcOfFS S rs) ((listNodesF (keepOf fs) rd D fD rd).map fun e => (e.1.drop rd.length, e.2)) →
      D.get (rd ++ (p ++ [c])) = some n → visOf (keepOf fs) (p ++ [c]) = true) :
    ∃ D', syncDest D rd (srcOfFS S rs) (lsOfFSF (keepOf fs) S rs fS)
        ((listNodesF (keepOf fs) rd D fD rd).map fun e => (e.1.drop rd.length, e.2)) = .ok D' ∧
      (∀ p, p ≠ [] → visOf (keepOf fs) p = true → MirrorAt D D' rd p (srcOfFS S rs p)) ∧
      (∀ p, visOf (keepOf fs) p = false → D'.get (rd ++ p) = D.get (rd ++ p)) := by
  obtain ⟨D', h1, -, -, h4, h5⟩ := sync_mirror (destWF_of_listNodesF (keepOf fs) D hD rd hroot hanc hclosed fD hfuel)
    (srcWF_of_treeF (keepOf fs) S rs fS hS) hsafe
  exact ⟨D', h1, h4, h5⟩

/-! ### `apply_filters` as it is written in `doer.rs` -/

theorem assignLoop_eq (kinds matched : List Bool) (hl : matched.length = kinds.length) :
    ∀ (pre : List Bool) (acc : Bool),
      assignLoop true false (pre ++ kinds) (idxFrom pre.length matched) (some acc) =
        some ((kinds.zip matched).foldl (fun acc (p : Bool × Bool) => if p.2 then p.1 else acc) acc) := by
  induction matched generalizing kinds with
  | nil => intro pre acc; cases kinds <;> simp [idxFrom, assignLoop]
  | cons m ms ih =>
    intro pre acc
    cases kinds with
    | nil => simp at hl
    | cons k ks =>
      have hl' : ms.length = ks.length := by simpa using hl
      have hpre : pre ++ k :: ks = (pre ++ [k]) ++ ks := by simp
      have := ih ks hl' (pre ++ [k])
      simp only [List.length_append, List.length_cons, List.length_nil] at this
      cases m with
      | false =>
        simp only [idxFrom, Bool.false_eq_true, ↓reduceIte, List.nil_append, List.zip_cons_cons, List.foldl_cons]
        rw [hpre]; exact this acc
      | true =>
        simp only [idxFrom, ↓reduceIte, List.zip_cons_cons, List.foldl_cons]
        unfold assignLoop
        simp only [List.cons_append, List.nil_append, List.foldl_cons, Option.bind_some]
        have hk : (pre ++ k :: ks)[pre.length]? = some k := by simp
        rw [hk]
        simp only [Option.map_some]
        have e : (if k = true then true else false) = k := by cases k <;> rfl
        rw [e, hpre]
        exact this k

/-- **`apply_filters` of `doer.rs`, as it is written** - its skeleton re-extracted from the source on every run (the early
return for the root, the three arms of the default, the loop over the matched filter indices with its two assignments, and that
the function consists of nothing else) and interpreted - **is the fold of the model** (`foldFilters`, about which `C06_fold_rule`
speaks): for every filter list and every pattern of matches the loop over the ascending matched indices never indexes out of
range and ends with the model's verdict; the root is included whatever the filters say. -/
theorem C06_apply_filters_is_the_sources :
    Generated.applyFiltersSkel.shape = true ∧
    (∀ kinds matched, matched.length = kinds.length →
      applyFiltersSrc Generated.applyFiltersSkel false kinds (idxFrom 0 matched) = some (foldFilters kinds matched)) ∧
    (∀ kinds ms, applyFiltersSrc Generated.applyFiltersSkel true kinds ms = some true) := by
  have hs : Generated.applyFiltersSkel = ⟨true, false, true, true, true, false, true⟩ := by decide
  rw [hs]
  refine ⟨rfl, ?_, fun kinds ms => by simp [applyFiltersSrc]⟩
  · intro kinds matched hl
    have key : ∀ acc, assignLoop true false kinds (idxFrom 0 matched) (some acc) =
        some ((kinds.zip matched).foldl (fun acc (p : Bool × Bool) => if p.2 then p.1 else acc) acc) :=
      fun acc => by simpa using assignLoop_eq kinds matched hl [] acc
    unfold applyFiltersSrc foldFilters
    simp only [Bool.false_and, Bool.false_eq_true, ↓reduceIte]
    cases kinds.head? with
    | none => exact key true
    | some b => cases b <;> exact key _

end Rj.C06
