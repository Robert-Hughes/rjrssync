import RjModel.Lemmas.ListingLemmas
import RjModel.Lemmas.WalkOrderLemmas
import RjModel.Lemmas.WalkerLemmas
import RjModel.Generated.Walker
import RjModel.Generated.ConfirmShape
import RjModel.Model.ConfirmShape
import RjModel.Lemmas.TryFromLemmas
/-! # C17 — the directory walk lists every included entry exactly once and always finishes -/
namespace Rj.C17
open Rj.Walker

/-- the worker loop of the source has the protocol features the theorems are proved for -/
theorem C17_skeleton_matches : Generated.walkFeatures = WalkFeatures.ref := by decide

/-- **No walk runs for ever**: every atomic step of any worker or of the consumer strictly
decreases the potential `phi`, so there is no infinite execution — for every tree, every number of
workers, every result-queue bound and every schedule.  (That a state which is not final has an enabled step is not
stated: with a result-queue bound of 0 it has none.) -/
theorem C17_terminates (n cap : Nat) (s s' : St) (a : Act) (h : step n cap s a = some s') : phi n s' < phi n s :=
  phi_decreases n cap s s' a h

theorem total_init (i n : Nat) (root : List T) : total i (St.init n root) = cnts i root := by
  simp [total, St.init, Job.c, WS.c, cntL]

/-- **Exactly once, nothing hidden**: for every tree, every number of workers, every queue bound and
every schedule — once the walk is over (no job, no result in flight, every worker idle or exited) the
consumer has received every id exactly as often as it occurs among the entries the filters keep
(`cnts` counts nothing at or beneath a skipped entry: an excluded folder is never descended, and a
symlink is a leaf), i.e. every included entry once and nothing else. -/
theorem C17_exactly_once (i n cap : Nat) (root : List T) (sched : List Act)
    (hq : (runSched n cap (St.init n root) sched).jobs = [])
    (hr : (runSched n cap (St.init n root) sched).results = [])
    (hw : ∀ w ∈ (runSched n cap (St.init n root) sched).ws, w = .exited ∨ w = .idle) :
    cntL i (runSched n cap (St.init n root) sched).consumed = cnts i root := by
  have h := total_runSched i n cap sched (St.init n root)
  rw [total_init] at h
  generalize runSched n cap (St.init n root) sched = s at *
  have hws : (s.ws.map (WS.c i)).sum = 0 := by
    apply List.sum_eq_zero_iff_forall_eq_nat.mpr; intro x hx
    obtain ⟨w, hm, rfl⟩ := List.mem_map.mp hx
    rcases hw w hm with rfl | rfl <;> rfl
  simpa [total, hq, hr, hws, cntL] using h

/-- at every moment of every execution nothing has been delivered more often than it should be -/
theorem C17_never_twice (i n cap : Nat) (root : List T) (sched : List Act) :
    cntL i (runSched n cap (St.init n root) sched).consumed ≤ cnts i root := by
  have h := total_runSched i n cap sched (St.init n root)
  rw [total_init] at h
  generalize runSched n cap (St.init n root) sched = s at *
  simp only [total] at h
  omega

/-- an excluded folder hides everything beneath it, whatever the verdicts inside -/
theorem C17_no_descend (i id : Nat) (kids : List T) : T.cnt i (.dir id true kids) = 0 := by
  simp [T.cnt]

/-- Non-vacuity: two workers, a tree with an excluded folder and a nested folder; one complete
schedule delivers exactly the four visible ids. -/
example :
    let root : List T := [.leaf 1 false, .dir 2 false [.leaf 3 false, .dir 4 true [.leaf 5 false]], .leaf 6 true, .dir 7 false []]
    let s := runSched 2 1000 (St.init 2 root)
      [.take 0, .entry 0, .entry 0, .inc 0, .enq 0, .take 1, .entry 1, .entry 1, .fin 1, .entry 0, .entry 0, .inc 0, .enq 0, .fin 0,
       .take 0, .fin 0, .take 0, .take 1, .consume, .consume, .consume, .consume]
    s.consumed = [1, 2, 3, 7] ∧ s.jobs.length = 0 ∧ s.results = [] ∧
    s.ws.all (fun w => match w with | .exited => true | _ => false) = true := by
  decide

/-! ### the listing as a function of the file-system model (what the walk computes, schedule-free) -/

/-- **Every *included* entry exactly once, folders before their contents, excluded folders not entered** — the
listing under filters (`listNodesF`; `keep` judges the path relative to the root `r`, which lies at or above `dir`):
it reports a node iff the node is reachable through real folders **and it and every ancestor below `dir` are kept**
(so nothing beneath an excluded folder, whatever the filters say about it), parents first and without repetition. -/
theorem C17_listing_exact_filtered (keep : FPath → Bool) (r : FPath) (fs : FS) (hw : fs.Wf) (f : Nat) (dir : FPath) :
    (∀ p n, (p, n) ∈ listNodesF keep r fs f dir → fs.get p = some n ∧ dir <+: p ∧ p ≠ dir ∧
      ∀ k, dir.length < k → k ≤ p.length → keep ((p.take k).drop r.length) = true) ∧
    (∀ rest n, rest ≠ [] → rest.length ≤ f → fs.get (dir ++ rest) = some n →
      (∀ k, 0 < k → k < rest.length → fs.get (dir ++ rest.take k) = some .folder) →
      (∀ k, 0 < k → k ≤ rest.length → keep ((dir ++ rest.take k).drop r.length) = true) →
      (dir ++ rest, n) ∈ listNodesF keep r fs f dir) ∧
    (listNodesF keep r fs f dir).Pairwise (fun a b => ¬ b.1 <+: a.1) ∧
    ((listNodesF keep r fs f dir).map (·.1)).Nodup := by
  exact ⟨fun p n h => listNodesF_sound hw h, fun rest n h1 h2 h3 h4 h5 => listNodesF_complete h1 h2 h3 h4 h5,
    listNodesF_parentFirst hw,
    List.pairwise_map.mpr ((listNodesF_parentFirst hw).imp fun h e => h (by rw [e]; exact List.prefix_rfl))⟩

/-- **`GetEntries` with filters is that listing**: the doer model's walk — its filter judges the root-relative path
*string* (`keep'`), the listing function the relative *component path* (`keep`), the two agreeing (`hkk`) — answers
exactly the entries of `listNodesF`, each with its root-relative path and details, and no error (every entry
reportable). -/
theorem C17_getentries_is_filtered_listing (fs : FS) (abs : List Comp) (keep' : String → Bool) (keep : FPath → Bool)
    (root : FPath) (hkk : ∀ p, keep' (relString root p) = keep (p.drop root.length)) (f : Nat) (dir : FPath)
    (hgood : ∀ e ∈ listNodes fs f dir, Reportable fs abs e) :
    listDir fs abs keep' root f dir =
      ((listNodesF keep root fs f dir).map fun e => (relString root e.1, detOr fs abs e), []) := by
  induction f generalizing dir with
  | zero => simp [listDir, listNodesF]
  | succ f ih =>
    simp only [listDir, listNodes, listNodesF] at hgood ⊢
    -- generalise the accumulator of the fold
    have key : ∀ (l : List (FPath × Node)) (acc : List (String × Details) × List ErrClass),
        (∀ c ∈ l, ∀ e ∈ (c :: (if c.2 = .folder then listNodes fs f c.1 else [])), Reportable fs abs e) →
        l.foldl (listStep fs abs keep' root (listDir fs abs keep' root f)) acc =
          (acc.1 ++ (l.flatMap fun c => if keep (c.1.drop root.length) then
              c :: (if c.2 = .folder then listNodesF keep root fs f c.1 else []) else []).map
            (fun e => (relString root e.1, detOr fs abs e)), acc.2) := by
      intro l
      induction l with
      | nil => intro acc _; simp
      | cons c rest ihl =>
        intro acc hg
        rw [List.foldl_cons, listStep_reportable fs abs keep' root _ acc c (hg c (by simp) c (by simp)), hkk,
          ihl _ fun c' hc' e he => hg c' (by simp [hc']) e he]
        by_cases hkc : keep (c.1.drop root.length) = true
        · by_cases hk : c.2 = .folder
          · simp [hkc, hk, ih c.1 fun e he => hg c (by simp) e (by simp [hk, he])]
          · simp [hkc, hk]
        · simp [hkc]
    have := key (fs.childrenOf dir) ([], []) (by
      intro c hc e he
      exact hgood e (List.mem_flatMap.mpr ⟨c, hc, he⟩))
    simpa using this

/-- **Every entry exactly once, folders before their contents** — on the file-system model: the listing
of a directory (`listNodes`: every child, each real folder followed by its own listing; a symlink is a
leaf) holds exactly the nodes strictly below the directory that are reachable through real folders —
each of them (given fuel for the depth), nothing else, none twice — and nothing listed later is a prefix
of (or equal to) something listed earlier. -/
theorem C17_listing_exact_fs (fs : FS) (hw : fs.Wf) (f : Nat) (dir : FPath) :
    (∀ p n, (p, n) ∈ listNodes fs f dir → fs.get p = some n ∧ dir <+: p ∧ p ≠ dir) ∧
    (∀ rest n, rest ≠ [] → rest.length ≤ f → fs.get (dir ++ rest) = some n →
      (∀ k, 0 < k → k < rest.length → fs.get (dir ++ rest.take k) = some .folder) → (dir ++ rest, n) ∈ listNodes fs f dir) ∧
    (listNodes fs f dir).Pairwise (fun a b => ¬ b.1 <+: a.1) ∧
    ((listNodes fs f dir).map (·.1)).Nodup := by
  have h := C17_listing_exact_filtered (fun _ => true) dir fs hw f dir
  rw [← listNodes_eq_listNodesF] at h
  exact ⟨fun p n hp => let ⟨a, b, c, _⟩ := h.1 p n hp; ⟨a, b, c⟩,
    fun rest n h1 h2 h3 h4 => h.2.1 rest n h1 h2 h3 h4 fun _ _ _ => rfl, h.2.2⟩

/-- **`GetEntries` is that listing**: without filters and with every entry reportable (no backslash in a
name, no special file, no time before the epoch) the doer model's `GetEntries` answers exactly the
entries of `listNodes`, each with its root-relative path and details, and no error. -/
theorem C17_getentries_is_listing (fs : FS) (abs : List Comp) (root : FPath) (f : Nat) (dir : FPath)
    (hgood : ∀ e ∈ listNodes fs f dir, Reportable fs abs e) :
    listDir fs abs (fun _ => true) root f dir =
      ((listNodes fs f dir).map fun e => (relString root e.1, detOr fs abs e), []) :=
  listNodes_eq_listNodesF root fs f dir ▸ C17_getentries_is_filtered_listing fs abs _ _ root (fun _ => rfl) f dir hgood

/-- non-vacuity: `-b` hides `b` and with it `b/x` (which `+b/x` alone would let through); `a` stays -/
example :
    let fs : FS := ⟨[([['a']], .folder), ([['b']], .folder), ([['b'], ['x']], .file [] (.at 0)), ([['a'], ['y']], .file [] (.at 0))]⟩
    let keep : FPath → Bool := fun p => p != [['b']]
    (listNodesF keep [] fs 3 []).map (·.1) = [[['a']], [['a'], ['y']]] ∧
    (listNodes fs 3 []).map (·.1) = [[['a']], [['a'], ['y']], [['b']], [['b'], ['x']]] := by
  decide

/-- **The listing in the order of the real walk** (a whole directory before descending: `listBelow`, by depth) also holds
exactly the entries below the root, parents first: it meets the listing assumptions of the mirror, recovery and
never-through-a-link theorems, which therefore speak about the objects of the `syncdest` / `syncprefixes` driver commands
(whose listings are given in the order `read_dir` produced them) as well. -/
theorem C17_walk_order_listing (fs : FS) (hw : fs.Wf) (r : FPath)
    (hroot : fs.get r = some .folder) (hanc : ∀ k, k < r.length → fs.get (r.take k) = some .folder)
    (hclosed : ∀ p, p ≠ [] → fs.get (r ++ p) ≠ none → fs.get (r ++ p.dropLast) = some .folder) :
    DestWF (fun _ => true) fs r (listBelow fs r) :=
  destWF_of_listBelow fs hw r ⟨hroot, hanc, hclosed⟩

/-- **The doer's listing functions still have the shape the listing model was written against** (pins: the normalised texts
of `filter_func` and `handle_get_entries` in doer.rs, extracted on every run, equal the copies in
`Model/ConfirmShape.lean`): the path an entry is listed under is the one relative to the root, once; every entry the walk
yields is sent; then the end marker. -/
theorem C17_listing_shape : Generated.filterFuncShape = filterFuncShapeRef ∧ Generated.handleGetEntriesShape = handleGetEntriesShapeRef := ⟨by rfl, by rfl⟩

/-- **The path an entry is listed under** (`RootRelativePath::try_from`, whose loop is translated from root_relative_path.rs
on every run - which characters refuse a component, what goes between two components): for components as a directory walk
yields them (not empty, no slash of either kind) the result is the components joined by single slashes - the model's
`joinSlash`, the spelling every planner and doer theorem uses; a component with a slash or a backslash in it refuses the
whole path (the entry is reported as an error, not listed under another name). -/
theorem C17_try_from_is_join : Generated.tryFromTranslated = true ∧
    (∀ comps, (∀ c ∈ comps, GoodC c) → Generated.tryFromSrc comps = some (joinSlash comps)) ∧
    (∀ pre c post, (∀ x ∈ pre, GoodC x) → ('/' ∈ c ∨ '\\' ∈ c) → Generated.tryFromSrc (pre ++ c :: post) = none) :=
  ⟨by decide, tryFrom_good, tryFrom_refuses⟩

example : Generated.tryFromSrc ["proj".toList, "proj".toList, "main.py".toList] = some "proj/proj/main.py".toList := by decide
example : Generated.tryFromSrc ["a".toList, "b\\c".toList] = none := by decide

end Rj.C17
