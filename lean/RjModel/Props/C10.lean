import RjModel.Generated.Session
import RjModel.Model.Frame
import RjModel.Generated.Constants
import RjModel.Generated.LinkSocket
/-! # C10 — the link rejects forged, altered, replayed or reordered frames -/
namespace Rj.C10

/-- the parities of the repaired / intended configuration -/
def par : Bool → Nat := fun d => if d then 1 else 0

/-- **The source's nonce discipline** (extracted on every run): both counters advance by 2 per
frame (the incremented value is *stored*), boss sends even / receives odd, doer the reverse. -/
theorem C10_nonce_config :
    Generated.sendNonceStep = some 2 ∧ Generated.recvNonceStep = some 2 ∧
    Generated.bossSendParity = some 0 ∧ Generated.bossRecvParity = some 1 ∧
    Generated.doerSendParity = some 1 ∧ Generated.doerRecvParity = some 0 := by decide

/-- **No two frames of a session share a nonce**: the nonce determines direction and index
(`checked_add` excludes wrap-around: the sender panics rather than reuse). -/
theorem C10_nonce_unique (d d' : Bool) (i i' : Nat) (h : nonce 2 par d i = nonce 2 par d' i') : d = d' ∧ i = i' := by
  cases d <;> cases d' <;> simp only [nonce, par, Bool.false_eq_true, ↓reduceIte] at h
  -- the same direction: the index is what is left; opposite directions: the two sides differ in parity
  · exact ⟨rfl, by omega⟩
  · omega
  · omega
  · exact ⟨rfl, by omega⟩

/-- The receiver's state is a prefix of what the peer sent, whenever distinct frames of the session
have distinct nonces (`hinj`): the step and the parities enter only through that. -/
theorem recv_prefix_gen (a : AEAD) (k step : Nat) (par : Bool → Nat)
    (hinj : ∀ d d' i i', nonce step par d i = nonce step par d' i' → d = d' ∧ i = i')
    (dir : Bool) (sent : Bool → List Bytes)
    (cs : List Bytes) (hu : Unforgeable a k step par sent cs) (r : Recv)
    (hr : r.delivered = (sent dir).take r.idx ∧ r.idx ≤ (sent dir).length) :
    let r' := cs.foldl (recvStep a k step par dir) r
    r'.delivered = (sent dir).take r'.idx ∧ r'.idx ≤ (sent dir).length := by
  induction cs generalizing r with
  | nil => exact hr
  | cons c cs ih =>
    refine ih (fun c' hc' => hu c' (List.mem_cons_of_mem _ hc')) _ ?_
    unfold recvStep
    split
    · split
      · next p hp =>
        -- what opens was made by an honest end; integrity and binding pin its nonce, `hinj` its place
        obtain ⟨d, i, hi, hc⟩ := hu c (List.mem_cons_self ..) _ _ hp
        obtain ⟨hn, rfl⟩ := a.binding _ _ _ _ _ (hc ▸ a.integrity _ _ _ _ hp)
        obtain ⟨rfl, rfl⟩ := hinj _ _ _ _ hn
        exact ⟨by simp only [hr.1, List.take_succ_eq_append_getElem hi], hi⟩
      · exact hr
    · exact hr

/-- **Prefix**: for every history of sent messages, every key and every sequence of byte strings the
network delivers — frames bit-flipped, truncated, made without the key, duplicated, reordered,
delivered after a dropped one, reflected from the other direction — the messages handed to the
receiving application are a prefix of what the other end sent: exactly once, in order. -/
theorem C10_prefix (a : AEAD) (k : Nat) (dir : Bool) (sent : Bool → List Bytes)
    (cs : List Bytes) (hu : Unforgeable a k 2 par sent cs) :
    ∃ j, j ≤ (sent dir).length ∧ (recvAll a k 2 par dir cs).delivered = (sent dir).take j := by
  have := recv_prefix_gen a k 2 par C10_nonce_unique dir sent cs hu ⟨0, true, []⟩ (by simp)
  exact ⟨_, this.2, this.1⟩

/-- **Nothing after the first bad frame**: once a frame fails to open the receiver is dead and
delivers nothing further, whatever follows. -/
theorem C10_dead_stays_dead (a : AEAD) (k step : Nat) (p : Bool → Nat) (dir : Bool) (cs : List Bytes) (r : Recv)
    (h : r.alive = false) : cs.foldl (recvStep a k step p dir) r = r := by
  induction cs with
  | nil => rfl
  | cons c cs ih => simp only [List.foldl_cons]; rw [show recvStep a k step p dir r c = r by simp [recvStep, h]]; exact ih

/-- **No key, no command**: if nothing the peer sends opens under the session key, the receiving
application is handed nothing at all (the doer's first `receive` fails and `message_loop` ends). -/
theorem C10_no_key_no_command (a : AEAD) (k step : Nat) (p : Bool → Nat) (dir : Bool) (cs : List Bytes)
    (hk : ∀ c ∈ cs, ∀ n, a.dec k n c = none) :
    (recvAll a k step p dir cs).delivered = [] := by
  unfold recvAll
  cases cs with
  | nil => rfl
  | cons c cs =>
    simp only [List.foldl_cons]
    have : recvStep a k step p dir ⟨0, true, []⟩ c = ⟨0, false, []⟩ := by
      simp [recvStep, hk c (List.mem_cons_self ..)]
    rw [this, C10_dead_stays_dead a k step p dir cs _ rfl]

/-- the executable item-level model under the extracted configuration delivers a prefix `0,1,…,j-1` -/
theorem C10_items_prefix (toDoer : Bool) (items : List Item) (idx : Nat) :
    let c : LinkCfg := ⟨2, 2, 0, 1, 1, 0⟩
    ∃ j, recvItems c toDoer items idx = List.range' idx j := by
  induction items generalizing idx with
  | nil => exact ⟨0, rfl⟩
  | cons it rest ih =>
    cases it with
    | junk => exact ⟨0, rfl⟩
    | frame fd i =>
      simp only [recvItems]
      by_cases h : (if fd = true then 1 else 0) + 2 * i = (if toDoer = true then 0 else 1) + 2 * idx
      · -- the two sides are the nonces of frame `i` from `fd` and of the frame expected from `!toDoer`
        obtain ⟨-, rfl⟩ := C10_nonce_unique fd (!toDoer) i idx (by cases toDoer <;> simpa [nonce, par] using h)
        obtain ⟨j, hj⟩ := ih (i + 1)
        refine ⟨j + 1, ?_⟩
        simp only [h, ↓reduceIte]
        rw [hj, List.range'_succ]
      · refine ⟨0, ?_⟩
        simp only [h, ↓reduceIte]; rfl

/-- With a counter that never advances (the unrepaired tree: the result of `checked_add` was
discarded) a duplicated frame is delivered twice. -/
theorem C10_replay_witness :
    (recvAll toyAEAD 7 0 par false [toyAEAD.enc 7 0 [1], toyAEAD.enc 7 0 [1]]).delivered = [[1], [1]] := by decide

/-- Non-vacuity: an honest in-order history under the toy AEAD is delivered whole, and the replay of its last frame that
follows is not delivered again. -/
example : (recvAll toyAEAD 7 2 par false [toyAEAD.enc 7 0 [5], toyAEAD.enc 7 2 [6], toyAEAD.enc 7 2 [6]]).delivered = [[5], [6]] := by
  decide

/-- **One session per key, one key per launch** (extracted from the source on every run): the remote
doer reads its key once, accepts exactly one TCP connection and builds exactly one encrypted link on it
(none of the three inside a loop), and the boss generates the key with `OsRng` inside every launch (no
process-wide key).  These are the facts that make "position in the stream" the same as "position in
the session" in `C10_prefix`/`C10_nonce_unique`: a recorded session cannot be replayed on a second
connection under the same key, and the two links of one boss — whose counters start at the same values —
never share a key. -/
theorem C10_session_features : Generated.sessionFeatures = ⟨true, true, true, true⟩ := by decide

/-- **The receiving end never gives up on a frame because of a silence**: no read time-out, no non-blocking mode on any
socket in the source (re-extracted on every run).  The rejection theorems treat the byte stream as "the next byte arrives or
the stream ends"; a receiver that abandons a frame after a silence and resynchronises on whatever comes next would hand an
attacker who can stall the link a way to drop frames unnoticed. -/
theorem C10_link_socket_plain : Generated.linkSocketPlain = true := by decide

end Rj.C10
