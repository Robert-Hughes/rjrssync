import RjModel.Lemmas.SyncLemmas
import RjModel.Lemmas.PlannerInv
import RjModel.Model.Boss
import RjModel.Model.Doer
import RjModel.Model.ParseWire
/-! # C04 — repeating a successful sync does nothing

What the second run sees is what the first run wrote, *read back*.  Proved about the model:
* link text round trip, on bytes: reading back a link that was written from a source link's target gives
  that target again (`C04_link_roundtrip`) — for every byte string, UTF-8 or not;
* time round trip: a modification time ≥ the epoch survives the wire form (whole seconds + nanoseconds)
  and `set mtime` / list at nanosecond resolution (`C04_time_wire`, `C04_mtime_readback`);
* with these, re-planning against the read-back destination is empty at every path
  (`C04_replan_empty`: no deletion and no copy), for every tree pair and every arrival order (C13),
  when same-time files are skipped (the default) on a destination that does not distinguish link kinds
  (unix);  an empty plan sends the destination nothing but the two markers and reports
  "Nothing to do!" (`C04_empty_plan_exec`);
* on the file-system model: after a sync that reached the mirror state the plan of a second run is empty
  (`C04_second_run_empty_fs`), and an entry that needs no action is not touched (`C04_equal_entry_untouched_fs`).
* `--files-same-time overwrite` re-copies equal files on every run by the user's own choice
  (`C04_same_time_overwrite_recopies`): that is configuration, not churn.
Validated: the real doer's write-then-list round trip of times and link texts (L3), two consecutive CLI
runs in the four placements (L4). -/
namespace Rj.C04

/-- **Link text round trip (bytes).**  `b` is any link text on the source; the destination link is
written from what the source doer reported and read back by the destination doer: same target. -/
theorem C04_link_roundtrip (b : List UInt8) : readLinkB (writeLinkB '/' (readLinkB b)) = readLinkB b :=
  readLinkB_roundtrip b

/-- what the destination doer reports for an entry the boss wrote from the source entry `w`: files
and folders as they are; a link with the written text read back and its kind probed afresh -/
def ReadBack : Details → Details → Prop
  | .symlink _ t, r => ∃ k', r = .symlink k' (readLinkB (writeLinkB '/' t))
  | w, r => r = w

/-- **Re-planning is empty.**  `dst'` is the destination as the second run lists it: where the first
run's plan copied something, that entry read back; where it deleted, nothing; elsewhere untouched.
Then the second plan has no deletion and no copy at any path. -/
theorem C04_replan_empty (c : PCfg) (hskip : c.sameTimeSkip = true) (hdiff : c.destDiff = false)
    (src dst dst' : String → Option Details)
    (hsrc : ∀ p k t, src p = some (.symlink k t) → ∃ b, t = readLinkB b)
    (h1 : ∀ p e r, cpySpec c src dst p = some (e, r) → ∃ d', dst' p = some d' ∧ ReadBack e d')
    (h2 : ∀ p, cpySpec c src dst p = none → dst' p = if (delSpec c src dst p).isSome then none else dst p)
    (p : String) : delSpec c src dst' p = none ∧ cpySpec c src dst' p = none := by
  -- an entry written from the source entry and read back needs neither deletion nor copy
  have key : ∀ e d', src p = some e → ReadBack e d' → needsDelete c e d' = false ∧ needsCopy c e d' = none := by
    intro e d' hs hrb
    cases e with
    | file m sz => cases hrb; simp [needsDelete, needsCopy, hskip]
    | folder => cases hrb; simp [needsDelete, needsCopy]
    | symlink k t =>
      obtain ⟨k', rfl⟩ := hrb
      obtain ⟨b, rfl⟩ := hsrc p k t hs
      simp [needsDelete, needsCopy, C04_link_roundtrip, hdiff]
  cases hs : src p with
  | none =>
    have hc : cpySpec c src dst p = none := by simp [cpySpec, hs]
    have := h2 p hc
    cases hd : dst p <;> simp [delSpec, cpySpec, hs, hd] at this ⊢ <;> simp [this]
  | some e =>
    cases hc : cpySpec c src dst p with
    | some er =>
      obtain ⟨e', r⟩ := er
      have he : e' = e := (Option.some.inj ((cpySpec_some hc).symm.trans hs))
      subst he
      obtain ⟨d', hd', hrb⟩ := h1 p e' r hc
      obtain ⟨k1, k2⟩ := key e' d' hs hrb
      simp [delSpec, cpySpec, hs, hd', k1, k2]
    | none =>
      have := h2 p hc
      simp only [cpySpec, hs] at hc
      cases hd : dst p with
      | none => simp [hd] at hc
      | some d =>
        simp only [hd] at hc
        by_cases hnd : needsDelete c e d = true
        · simp [hnd] at hc
        · simp only [hnd, Bool.false_eq_true, ↓reduceIte, Option.map_eq_none_iff] at hc
          simp only [delSpec, hd, hs, hnd, Bool.false_eq_true, ↓reduceIte, Option.isSome_none] at this
          simp [delSpec, cpySpec, hs, this, hnd, hc]

/-- **An empty plan does nothing**: the destination is sent only the two markers, the source nothing,
and the run reports "Nothing to do!". -/
theorem C04_empty_plan_exec (sc : Scenario) (ctx : Ctx) (x : XState) (conf : Conf)
    (del : OMap (Details × DelReason)) (cpy : OMap (Details × CopyReason))
    (hd : del.iter = []) (hc : cpy.iter = []) (he : sc.errAtPoll = none) :
    (execPhase sc ctx x conf del cpy).outcome = .ok ∧
    (execPhase sc ctx x conf del cpy).destTrace = x.dest ++ [.marker .copying, .marker .done] ∧
    (execPhase sc ctx x conf del cpy).srcTrace = x.src ∧
    (execPhase sc ctx x conf del cpy).log = x.log ++ ["Nothing to do!"] := by
  simp [execPhase, hd, hc, he, deleteLoop, copyLoop, barrierFails, mkResult, XState.sendDest, summary]

/-- the same-time behaviour `overwrite` makes every later run copy equal files again — the user's
configuration, stated so that the hypothesis of `C04_replan_empty` is seen to be needed -/
theorem C04_same_time_overwrite_recopies :
    cpySpec ⟨false, false⟩ (fun _ => some (.file 5 1)) (fun _ => some (.file 5 1)) "f" = some (.file 5 1, .sameTime) := by
  decide

/-- **Times cross the wire exactly**: whole seconds and nanoseconds since the epoch recompose to the
time, for every time ≥ the epoch. -/
theorem C04_time_wire (ns : Int) (h : 0 ≤ ns) :
    ((splitTime ns).1 : Int) * 1000000000 + (splitTime ns).2 = ns ∧ (splitTime ns).2 < 1000000000 := by
  simp only [splitTime]
  have : (ns.toNat : Int) = ns := Int.toNat_of_nonneg h
  omega

/-- **A written time is the time listed**: after a successful `set_file_mtime` the entry details of
the file carry exactly that time (nanosecond resolution), whatever the time was before. -/
theorem C04_mtime_readback (fs fs' : FS) (abs : List Comp) (p : FPath) (t : Int) (b : List UInt8) (m : MTime)
    (hp : fs.get p = some (.file b m)) (h : fs.setMtime p t = .ok fs') (ht : 0 ≤ t) :
    ∃ n, fs'.get p = some n ∧ detailsOf fs' abs p n = .ok (.file t b.length) := by
  obtain ⟨-, h⟩ := withAnc_ok h
  have hne : p ≠ [] := ne_nil_of_get hp (by simp)
  simp only [hp, OpR.ok.injEq] at h
  subst h
  refine ⟨.file b (.at t), by rw [FS.get_set hne]; simp, ?_⟩
  simp only [detailsOf]
  have : ¬ t < 0 := by omega
  simp [this]

/-- **On the file-system model: a second run plans nothing.**  After the destination half of a sync
(`syncDest`, which `C01_mirror_fs` shows to end `ok` in the mirror state), the plan computed from the
same source and any complete listing of the destination as it now is — has no deletion and no creation:
whatever was written (times at ns resolution, link texts through `writeLinkB`) reads back as up to date. -/
theorem C04_second_run_empty_fs {vis : FPath → Bool} {fs0 : FS} {r : FPath} {ld ld' : List (FPath × Node)} {src : FPath → Option SEntry}
    {ls : List (FPath × SEntry)} (hw : DestWF vis fs0 r ld) (hs : SrcWF vis src ls)
    (hsafe : ∀ p c n, (p, Node.folder) ∈ planDel src ld → fs0.get (r ++ (p ++ [c])) = some n → vis (p ++ [c]) = true) :
    ∃ fs', syncDest fs0 r src ls ld = .ok fs' ∧
      ((∀ p n, (p, n) ∈ ld' → p ≠ [] ∧ vis p = true ∧ fs'.get (r ++ p) = some n) →
        planDel src ld' = [] ∧ planCpy (fun p => fs'.get (r ++ p)) ls = []) := by
  obtain ⟨fs', h1, -, -, hm, -⟩ := sync_mirror hw hs hsafe
  -- in the mirror state a path holds something iff the source does, and then something up to date
  refine ⟨fs', h1, fun hld => ⟨?_, ?_⟩⟩
  · simp only [planDel, List.reverse_eq_nil_iff, List.filter_eq_nil_iff]
    rintro ⟨p, n⟩ hx
    obtain ⟨hp, hv, hg⟩ := hld p n hx
    have := hm p hp hv
    cases hsp : src p with
    | none => rw [hsp, MirrorAt, hg] at this; cases this
    | some e =>
      obtain ⟨n', h1, h2⟩ := upToDate_of_mirrorAt (hsp ▸ this)
      rw [hg, Option.some.injEq] at h1
      simp [needDel, hsp, h1, upToDate_compatible h2]
  · simp only [planCpy, List.filter_eq_nil_iff]
    rintro ⟨p, e⟩ hx
    obtain ⟨hp, hv, hsp⟩ := (hs.listed p e).mp hx
    obtain ⟨n, h1, h2⟩ := upToDate_of_mirrorAt (hsp ▸ hm p hp hv)
    simp [needCpy, h1, h2]

/-- The two facts `C04_replan_empty` turns on, evaluated: a link whose text is not in normal form reads back, after being
written, as the target it was written from; against an empty destination that link is planned as `notOnDest`. -/
example : readLinkB (writeLinkB '/' (readLinkB (utf8 "a//b/".toList))) = .normalized "a/b" ∧
    cpySpec ⟨true, false⟩ (fun p => if p = "l" then some (.symlink .unknown (readLinkB (utf8 "a//b/".toList))) else none)
      (fun _ => none) "l" = some (.symlink .unknown (.normalized "a/b"), .notOnDest) := by decide

/-- **What is equal is left alone** (file-system model, any listings, any order): an entry the destination already holds
up to date — a folder where the source has a folder, a file carrying the source's time, a link whose text reads as the source's
target — is named neither by a planned deletion nor by a planned creation, whatever else the two listings hold and in whatever
order they hold it. -/
theorem C04_equal_entry_untouched_fs (src : FPath → Option SEntry) (dst : FPath → Option Node)
    (ls : List (FPath × SEntry)) (ld : List (FPath × Node)) (p : FPath) (e : SEntry) (n : Node)
    (hs : src p = some e) (hd : dst p = some n) (hup : upToDate e n = true)
    (hls : ∀ e', (p, e') ∈ ls → e' = e) (hld : ∀ n', (p, n') ∈ ld → n' = n) :
    p ∉ (planDel src ld).map (·.1) ∧ p ∉ (planCpy dst ls).map (·.1) := by
  constructor
  · intro h
    obtain ⟨⟨q, n'⟩, ha, rfl⟩ := List.mem_map.mp h
    obtain ⟨h1, h2⟩ := mem_planDel.mp ha
    cases hld n' h1
    simp [needDel, hs, upToDate_compatible hup] at h2
  · intro h
    obtain ⟨⟨q, e'⟩, ha, rfl⟩ := List.mem_map.mp h
    obtain ⟨h1, h2⟩ := mem_planCpy.mp ha
    cases hls e' h1
    simp [needCpy, hd, hup] at h2

end Rj.C04
