import RjModel.Lemmas.WireLemmas
import RjModel.Model.Channel
import RjModel.Generated.Skeletons
import RjModel.Generated.LinkSocket
/-! # C14 — messages arrive exactly once, in order and intact, with bounded buffering -/
namespace Rj.C14
open Rj.Wire

/-- **Bincode round trip, commands**: for every command (all variants, payloads of any length that a
`u64` can count) decoding the encoding gives the command back and consumes exactly its bytes. -/
theorem C14_cmd_roundtrip (c : WCmd) (rest : B) (h : wfCmd c) : dCmd (eCmd c ++ rest) = some (c, rest) := by
  -- the variant index selects the arm of `dCmd` (unfolded only now: see `bind_dTag`), then field by field
  cases c <;> simp only [eCmd, List.append_assoc] <;> rw [dCmd, bind_dTag (by decide)]
  case setRoot r | getFileContent r | createFolder r | deleteFile r | deleteFolder r =>
    simp only [dBytes_eBytes r h, Option.map_some]
  case getEntries ps ks =>
    simp only [dNat8 h.1, dStrs_eStrs ps h.2.2, dNat8 h.2.1, dKinds_eKinds, Option.bind_some, Option.map_some]
  case createOrUpdateFile p d t more =>
    simp only [dBytes_eBytes p h.1, dBytes_eBytes d h.2.1, dOptTime_eOptTime t h.2.2, dBool_eBool,
      Option.bind_some, Option.map_some]
  case createSymlink p k t =>
    simp only [dBytes_eBytes p h.1, dKind_eKind, dTarget_eTarget t h.2, Option.bind_some, Option.map_some]
  case deleteSymlink p k => simp only [dBytes_eBytes p h, dKind_eKind, Option.bind_some, Option.map_some]
  case marker m => simp only [dMarker_eMarker m h, Option.map_some]
  all_goals rfl   -- the three variants without fields

/-- **Bincode round trip, responses.** -/
theorem C14_resp_roundtrip (c : WResp) (rest : B) (h : wfResp c) : dResp (eResp c ++ rest) = some (c, rest) := by
  cases c <;> simp only [eResp, List.append_assoc] <;> rw [dResp, bind_dTag (by decide)]
  case rootDetails d diff sep =>
    simp only [dOptDetails_eOptDetails d h.2, dBool_eBool, Option.bind_some, List.cons_append, List.nil_append,
      UInt8.toNat_ofNat', Nat.mod_eq_of_lt h.1]
  case entry p d => simp only [dBytes_eBytes p h.1, dDetails_eDetails d h.2, Option.bind_some, Option.map_some]
  case endOfEntries => rfl
  case fileContent d more => simp only [dBytes_eBytes d h, dBool_eBool, Option.bind_some, Option.map_some]
  case profilingTimeSync s n => simp only [dNat8 h.1, dNat4 h.2, Option.bind_some, Option.map_some]
  case marker m => simp only [dMarker_eMarker m h, Option.map_some]
  case error msg => simp only [dBytes_eBytes msg h, Option.map_some]

/-- the accounted size of a file chunk is its length plus 13 bytes of framing -/
theorem C14_size_fileContent (d : B) (more : Bool) : (eResp (.fileContent d more)).length = d.length + 13 := by
  simp [eResp, eBytes, eBool]; omega

def eCmds : List WCmd → B
  | [] => []
  | c :: cs => eCmd c ++ eCmds cs

def dCmds : Nat → B → Option (List WCmd)
  | 0, [] => some []
  | 0, _ => none
  | n + 1, b => (dCmd b).bind fun (c, r) => (dCmds n r).map (c :: ·)

/-- a sequence of frames decodes to the sequence of messages (exactly once, in order, intact) -/
theorem C14_stream_roundtrip (cs : List WCmd) (h : ∀ c ∈ cs, wfCmd c) : dCmds cs.length (eCmds cs) = some cs := by
  induction cs with
  | nil => rfl
  | cons c rest ih =>
    simp [dCmds, eCmds, C14_cmd_roundtrip c _ (h c (List.mem_cons_self ..)), ih (fun x hx => h x (List.mem_cons_of_mem _ hx))]

/-! ## the memory-bound channel -/
open Rj.Chan

/-- the protocol features of the source are those the theorems below were proved for -/
theorem C14_channel_matches : Generated.channelFeatures = ChanFeatures.ref := by decide

/-- **Counter and conservation invariant**, preserved by every atomic step of either thread -/
theorem C14_inv_step (cap : Nat) (all : List Nat) (s s' : St) (a : Act)
    (h : Chan.Inv all s) (hs : step cap s a = some s') : Chan.Inv all s' := by
  obtain ⟨hc, hl⟩ := h
  revert hs
  fun_cases step cap s a <;> intro hs <;> cases hs
  next m rest hts hspc old =>
    -- `fetchAdd`; waiting or ready, the message is counted and in flight either way
    have h1 : (if old > cap then SPC.waiting m else .ready m).sz = m := by split <;> rfl
    have h2 : (if old > cap then SPC.waiting m else .ready m).lst = [m] := by split <;> rfl
    simp only [hspc, hts, SPC.sz, SPC.lst] at hc hl
    exact ⟨by simp only [h1]; omega, by simpa [h2] using hl⟩
  next m hspc _ =>   -- `spinPass`
    exact ⟨by simpa [hspc, SPC.sz] using hc, by simpa [hspc, SPC.lst] using hl⟩
  next m hspc =>   -- `innerSend`
    exact ⟨by simpa [hspc, SPC.sz] using hc, by simpa [hspc, SPC.lst] using hl⟩
  next m q' hq hrpc =>   -- `recv`
    exact ⟨by simp [hrpc, hq, RPC.sz] at hc ⊢; omega, by simpa [hrpc, hq, RPC.lst] using hl⟩
  next m hrpc =>   -- `fetchSub`
    exact ⟨by simp [hrpc, RPC.sz] at hc ⊢; omega, by simpa [hrpc, RPC.lst] using hl⟩

/-- a waiting sender is never stuck: the receiver or the sender itself can move -/
theorem C14_progress (cap : Nat) (all : List Nat) (s : St) (m : Nat)
    (h : Chan.Inv all s) (hw : s.spc = .waiting m) :
    (step cap s .spinPass).isSome ∨ (step cap s .recv).isSome ∨ (step cap s .fetchSub).isSome := by
  obtain ⟨hc, _⟩ := h
  simp only [hw, SPC.sz] at hc
  by_cases hgt : s.counter - m > cap
  · right
    cases hr : s.rpc with
    | got k => right; simp [step, hr]
    | idle =>
      left
      cases hq : s.q with
      | nil => simp [hr, hq, RPC.sz] at hc; omega
      | cons x xs => simp [step, hr, hq]
  · left; simp [step, hw, hgt]

/-- drained and quiescent => accounted size is zero -/
theorem C14_drained_zero (all : List Nat) (s : St) (h : Chan.Inv all s)
    (h1 : s.spc = .idle) (h2 : s.rpc = .idle) (h3 : s.q = []) : s.counter = 0 := by
  simpa [h1, h2, h3, SPC.sz, RPC.sz] using h.1

/-- with nothing queued a message of any size is admitted at once -/
theorem C14_oversize_passes (cap : Nat) (all : List Nat) (s : St) (m : Nat) (rest : List Nat) (h : Chan.Inv all s)
    (h1 : s.spc = .idle) (h2 : s.rpc = .idle) (h3 : s.q = []) (h4 : s.toSend = m :: rest) :
    ∃ s', step cap s .fetchAdd = some s' ∧ s'.spc = .ready m := by
  have h0 := C14_drained_zero all s h h1 h2 h3
  refine ⟨_, by simp only [step, h1, h4]; rfl, ?_⟩
  simp [h0]

theorem C14_init_inv (msgs : List Nat) : Chan.Inv msgs (St.init msgs) := by
  simp [Chan.Inv, St.init, SPC.sz, RPC.sz, SPC.lst, RPC.lst]

/-- **Every reachable state**: for every capacity (0 and smaller than one message included), every
message sequence and every schedule of the two threads, the counter equals the accounted size of
what is in flight, and `delivered ++ in flight ++ not yet sent` is the sequence handed to `send` —
so what has been delivered is always a prefix of it: exactly once, in order. -/
theorem C14_reachable (cap : Nat) (msgs : List Nat) (sched : List Act) :
    Chan.Inv msgs (runSched cap (St.init msgs) sched) := by
  suffices ∀ s, Chan.Inv msgs s → Chan.Inv msgs (runSched cap s sched) from this _ (C14_init_inv msgs)
  induction sched with
  | nil => intro s h; exact h
  | cons a as ih =>
    intro s h
    simp only [runSched]
    cases hs : step cap s a with
    | none => exact ih s h
    | some s' => exact ih s' (C14_inv_step cap msgs s s' a h hs)

theorem C14_fifo (cap : Nat) (msgs : List Nat) (sched : List Act) :
    ∃ rest, (runSched cap (St.init msgs) sched).delivered ++ rest = msgs := by
  obtain ⟨_, hl⟩ := C14_reachable cap msgs sched
  generalize runSched cap (St.init msgs) sched = s at hl
  exact ⟨s.rpc.lst ++ (s.q ++ (s.spc.lst ++ s.toSend)), by rw [← hl]; simp [List.append_assoc]⟩

/-- **A sender is held back only while more than the capacity is already queued**: the admission
test fails only if the bytes counted *before* its own message exceed the capacity. -/
theorem C14_blocks_only_over (cap : Nat) (s s' : St) (m : Nat) (h : step cap s .fetchAdd = some s')
    (hw : s'.spc = .waiting m) : s.counter > cap := by
  simp only [step] at h
  split at h <;> cases h
  next m' rest _ _ =>
    simp only at hw
    split at hw
    · assumption
    · cases hw

/-- Non-vacuity: capacity 10, messages 8, 8, 8: the third one waits until the first is received. -/
example :
    let s := runSched 10 (St.init [8, 8, 8]) [.fetchAdd, .innerSend, .fetchAdd, .innerSend, .fetchAdd, .spinPass]
    s.spc = .waiting 8 ∧ s.counter = 24 ∧
    (runSched 10 s [.recv, .fetchSub, .spinPass, .innerSend, .recv, .fetchSub, .recv, .fetchSub]).delivered = [8, 8, 8] ∧
    (runSched 10 s [.recv, .fetchSub, .spinPass, .innerSend, .recv, .fetchSub, .recv, .fetchSub]).counter = 0 := by
  decide

/-- **The link is a plain blocking stream**: no read or write time-out and no non-blocking mode is set on any socket in
the source (re-extracted on every run).  The delivery theorems speak about a stream that delivers the next byte or ends; a
read that gives up after a silence is neither — a frozen peer, a slow disk or a user thinking about a prompt would lose
messages that were still to come. -/
theorem C14_link_socket_plain : Generated.linkSocketPlain = true := by decide

end Rj.C14
