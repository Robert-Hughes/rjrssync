import RjModel.Model.Launch
import RjModel.Lemmas.KeyLemmas
/-! # C15 — a remote doer is used only after a version match; deployment needs consent -/
namespace Rj.C15

/-- **Key text round trip, for all 2^128 keys** (leading zero bytes included): what the doer
reconstructs from `format!("{:x}", key)` is the key. -/
theorem C15_key_roundtrip (key : List Nat) (hl : key.length = 16) (h : ∀ b ∈ key, b < 256) :
    Key.roundTrip key = some key := by
  unfold Key.roundTrip Key.parseU128
  have hne : Key.fmt key ≠ [] := by
    cases key with
    | nil => simp at hl
    | cons b bs => simp [Key.fmt]
  simp only [hne, ↓reduceIte, Key.parse_fmt key 0 h]
  have hlt : Key.fromBE 0 key < 2 ^ 128 := by
    have := Key.fromBE_lt key h
    rw [hl] at this
    calc Key.fromBE 0 key < 256 ^ 16 := this
      _ = 2 ^ 128 := by decide
  simp only [hlt, ↓reduceIte, Option.map_some]
  rw [← hl, Key.toBE_fromBE key h]

/-- two characters per byte: the text of a key is always 32 characters -/
theorem C15_key_text_length (key : List Nat) : (Key.fmt key).length = 2 * key.length := by
  induction key with
  | nil => rfl
  | cons b bs ih => simp [Key.fmt, ih]; omega

/-- One iteration of the loop: a continuing step sets `keySent` exactly when it writes, it writes only
on stdout's handshake line carrying the local version, and success presupposes `keySent`. -/
theorem hstep_spec (localV : String) (s : HState) (m : Strm × HMsg) :
    (∀ s' w, hstep localV s m = .inl (s', w) →
      s'.keySent = (s.keySent || w) ∧ (w = true → m = (.out, .started localV))) ∧
    (∀ p, hstep localV s m = .inr (.success p) → s.keySent = true) := by
  -- a `completed` line marks its stream done and leaves `keySent` alone: `apply_ite` looks through the `if` on the stream
  -- that builds the new state (a `let` of the model, hence `zetaDelta`); every other branch is immediate
  fun_cases hstep localV s m <;> simp_all +zetaDelta [apply_ite HState.keySent]

/-- **The key is written only on an exact version match, on stdout's handshake line.**  In every run
of the handshake loop over *any* message sequence, a step writes the key only if its message is the
started-line of stdout carrying exactly the local version string. -/
theorem C15_key_after_match (localV : String) (msgs : List (Strm × HMsg)) (s : HState) (i : Nat)
    (h : (hrun localV s msgs).2[i]? = some true) :
    msgs[i]? = some (.out, .started localV) := by
  induction msgs generalizing s i with
  | nil => simp [hrun] at h
  | cons m rest ih =>
    simp only [hrun] at h
    cases hs : hstep localV s m with
    | inr r => simp only [hs] at h; cases i <;> simp at h
    | inl p =>
      obtain ⟨s', w⟩ := p
      simp only [hs] at h
      cases i with
      | zero =>
        simp only [List.getElem?_cons_zero, Option.some.injEq] at h ⊢
        exact ((hstep_spec localV s m).1 s' w hs).2 h
      | succ j =>
        simp only [List.getElem?_cons_succ] at h ⊢
        exact ih s' j h

/-- to any other version nothing is written: the loop returns at that message -/
theorem C15_other_version_no_key (localV v : String) (st : Strm) (s : HState) (rest : List (Strm × HMsg)) (hv : v ≠ localV) :
    hrun localV s ((st, .started v) :: rest) = (.incompatible v, [false]) := by
  simp [hrun, hstep, hv]

/-- success implies the key was handed over (so there is no sync traffic without a version match) -/
theorem C15_success_needs_key (localV : String) (msgs : List (Strm × HMsg)) (s : HState) (p : Nat)
    (h : (hrun localV s msgs).1 = .success p) : s.keySent = true ∨ true ∈ (hrun localV s msgs).2 := by
  induction msgs generalizing s with
  | nil => simp [hrun] at h
  | cons m rest ih =>
    simp only [hrun] at h ⊢
    cases hs : hstep localV s m with
    | inr r =>
      simp only [hs] at h
      subst h
      exact Or.inl ((hstep_spec localV s m).2 p hs)
    | inl q =>
      obtain ⟨s', w⟩ := q
      simp only [hs] at h ⊢
      rcases ih s' h with h1 | h1
      · rw [((hstep_spec localV s m).1 s' w hs).1, Bool.or_eq_true] at h1
        exact h1.imp id fun (hw : w = true) => hw ▸ List.mem_cons_self ..
      · exact Or.inr (List.mem_cons_of_mem _ h1)

/-! `setup_comms` either never gets to deploying (one launch, nothing else) or runs the deploy
sequence consent → upload → relaunch, which stops at the first refusal or failure. -/

theorem deployConsent_iff (b : DeployBeh) (ans : Bool) :
    (deployConsent b ans).1 = true ↔ b = .ok ∨ b = .force ∨ (b = .prompt ∧ ans = true) := by
  cases b <;> simp [deployConsent]

theorem setupComms_noDeploy {b : DeployBeh} {first : LaunchRes} (second : LaunchRes) (ans scp : Bool)
    (h : ¬(b = .force ∨ first = .notPresent ∨ first = .incompatible)) :
    setupComms b first second ans scp = ⟨1, false, false, first = .success⟩ := by
  cases first <;> simp_all [setupComms]

theorem setupComms_deploy {b : DeployBeh} {first : LaunchRes} (second : LaunchRes) (ans scp : Bool)
    (h : b = .force ∨ first = .notPresent ∨ first = .incompatible) :
    setupComms b first second ans scp =
      let n := if b = .force then 0 else 1
      let c := deployConsent b ans
      if !c.1 then ⟨n, false, c.2, false⟩
      else if !scp then ⟨n, true, c.2, false⟩
      else ⟨n + 1, true, c.2, second = .success⟩ := by
  by_cases hb : b = .force
  · simp [setupComms, hb]
  · rcases h with h | h | h <;> simp [setupComms, hb, h]

/-- **Deployment needs consent**: something is uploaded only if the deploy behaviour is `ok` or
`force`, or it is `prompt` and the answer is "Deploy"; with `error`, or a cancelled prompt, nothing
is uploaded and the run fails unless the first launch already succeeded; after a deploy there is
exactly one relaunch. -/
theorem C15_deploy_consent (b : DeployBeh) (first second : LaunchRes) (ans scp : Bool) :
    let t := setupComms b first second ans scp
    (t.uploads = true → b = .ok ∨ b = .force ∨ (b = .prompt ∧ ans = true)) ∧
    (b = .error → t.uploads = false ∧ (t.ok = true → first = .success)) ∧
    (b = .prompt → ans = false → t.uploads = false ∧ (t.ok = true → first = .success)) ∧
    (t.ok = true → t.uploads = true → second = .success ∧ t.launches = (if b = .force then 1 else 2)) ∧
    t.launches ≤ 2 := by
  intro t
  by_cases hd : b = .force ∨ first = .notPresent ∨ first = .incompatible
  · have ht : t = _ := setupComms_deploy second ans scp hd
    cases hc : (deployConsent b ans).1
    · simp [ht, hc]; split <;> decide   -- no consent: nothing is uploaded, the run fails; left: `launches ≤ 2`
    · rcases (deployConsent_iff b ans).mp hc with rfl | rfl | ⟨rfl, rfl⟩ <;> cases scp <;> simp [ht, hc]
  · simp [show t = _ from setupComms_noDeploy second ans scp hd]

/-- Non-vacuity: a causally possible interleaving with noise succeeds; the key is written once. -/
example : hrun "v" HState.init [(.err, .line true), (.err, .started "v"), (.out, .started "v"), (.out, .line true),
            (.err, .completed (some 40000)), (.out, .completed (some 40000))] =
          (.success 40000, [false, false, true, false, false, false]) := by decide

end Rj.C15
