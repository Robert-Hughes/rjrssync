import RjModel.Props.C13
import RjModel.Model.Settings
import RjModel.Generated.PanicSites
import RjModel.Generated.Constants
import RjModel.Model.Progress
/-! # C18 — no input makes rjrssync crash

Lean's totality says nothing about Rust panics.  What the proof side contributes is (1) a closed
inventory of every `unwrap`/`expect`/`panic!`/`assert!` group of the source, re-extracted on every run
and matched against the committed classification table (`/verif/panic_sites.json`), and (2) the guard
theorems that the table refers to.  The rest of C18 is the differential stream (L4 fuzz). -/
namespace Rj.C18

/-- every panic-capable group of the current source is classified (same file, function, kind and
count as in the committed table) -/
theorem C18_panic_sites_classified : ∀ g ∈ Generated.panicGroups, g.classified = true := by decide

/-- modification times before the epoch (which `bincode` cannot serialise: `serialized_size` fails
and the doer thread would panic) are rejected with an error where the entry details are read -/
theorem C18_pre_epoch_rejected : Generated.preEpochRejected = true := by decide

/-- the exit statuses of the boss are the documented ones -/
theorem C18_exit_codes : ∀ c ∈ Generated.bossExitCodes, c ∈ [10, 11, 12, 18, 19] := by decide

/-- `OrderedMap::update`'s `unwrap` cannot fire: the planner never panics, for any arrival order -/
theorem C18_update_never_panics (c : PCfg) (evs : List Ev)
    (hs : ((srcOf evs).map (·.1)).Nodup) (hd : ((dstOf evs).map (·.1)).Nodup) :
    (prun c PState.init evs).isSome = true := by
  obtain ⟨s, h, _⟩ := C13.C13_closed_form c evs hs hd
  simp [h]

/-- the four "Should have been already resolved" panics: a resolved behaviour is never `prompt` -/
theorem C18_resolved_never_prompt (b : Beh) (a : List Answer) (al : Bool) : (resolve b a al).1 ≠ .prompt :=
  resolve_ne_prompt b a al

/-- `needs_copy`'s "Wrong entry type" panic: it is called only when `needs_delete` is false, and then
a source file faces a destination file -/
theorem C18_needs_copy_total (c : PCfg) (m : Int) (sz : Nat) (d : Details) (h : needsDelete c (.file m sz) d = false) :
    ∃ m' sz', d = .file m' sz' := by
  cases d with
  | file m' sz' => exact ⟨m', sz', rfl⟩
  | folder => simp [needsDelete] at h
  | symlink k t => simp [needsDelete] at h

/-- `validate_trailing_slash` unwraps the last character of the root path: both front ends only
produce non-empty paths -/
theorem C18_root_nonempty :
    (∀ s d, parsePathDesc s = some d → d.path ≠ "") ∧
    (∀ rules it s, parseSync rules it = some s → s.src ≠ "" ∧ s.dest ≠ "") := by
  constructor
  · intro s d h
    obtain ⟨d', -, h2⟩ := Option.bind_eq_some_iff.mp h
    split at h2
    · cases h2
    · cases h2; assumption
  · intro rules it s h
    cases it with
    | otherI t => cases h
    | hash kvs =>
      obtain ⟨s', -, h2⟩ := Option.bind_eq_some_iff.mp h
      split at h2
      · cases h2
      · next hsrc =>
        split at h2
        · cases h2
        · next hdest => cases h2; exact ⟨hsrc, hdest⟩

/-! ### the progress accounting: `debug_assert!(sent <= total)`, `debug_assert_eq!(total, sent)` -/

theorem PV.add_def (a b : PV) : a + b = ⟨a.work + b.work, a.delete + b.delete, a.copy + b.copy, a.copyBytes + b.copyBytes⟩ := rfl

/-- the chunk lengths of a successfully relayed file reach `size` exactly with the last chunk, not before
(C11: the relay succeeds iff the lengths total the listed size, and the look-ahead reader emits no empty
chunk unless the file is empty — so no chunk follows the one that reaches the size) -/
def ReachesAtEnd (size : Nat) : Nat → List Nat → Prop
  | _, [] => False
  | start, [l] => start + l = size
  | start, l :: l2 :: rest => start + l < size ∧ ReachesAtEnd size (start + l) (l2 :: rest)

/-- `sent` after any initial part `pre` of the chunks: the bytes so far; the file itself (one copy, the
floor `minSz` of its work) is counted with the last chunk, which is the one that reaches `size`. -/
theorem sumPartial_prefix (minSz size : Nat) (pre suf : List Nat) (start : Nat) (h : ReachesAtEnd size start (pre ++ suf)) :
    sumPartial minSz size start pre =
      ⟨if size > minSz then pre.sum else if suf = [] then minSz else 0, 0, if suf = [] then 1 else 0, pre.sum⟩ ∧
    (suf = [] → start + pre.sum = size) := by
  induction pre generalizing start with
  | nil => cases suf <;> simp_all [ReachesAtEnd, sumPartial]
  | cons l pre' ih =>
    cases hr : pre' ++ suf with
    | nil =>
      obtain ⟨rfl, rfl⟩ := List.append_eq_nil_iff.mp hr
      have : start + l = size := by simpa [ReachesAtEnd] using h
      simp [sumPartial, forCopyPartial, this, PV.add_def]
    | cons l2 rest =>
      rw [List.cons_append, hr] at h
      obtain ⟨ih1, ih2⟩ := ih (start + l) (hr ▸ h.2)
      refine ⟨?_, fun hs => by have := ih2 hs; simp only [List.sum_cons]; omega⟩
      rw [sumPartial, ih1]
      simp only [forCopyPartial, h.1, ↓reduceIte, PV.add_def, List.sum_cons, Nat.zero_add, PV.mk.injEq, and_true]
      split <;> simp

/-- **`total == sent` when a file has been relayed**: whatever the chunking — any number of chunks of
any lengths that reach the listed size with the last chunk — what the chunk loop adds to `sent`
(`for_copy_partial` per chunk) is exactly what `for_copy` put into `total` for that file: one copy,
`size` bytes, `max(size, MIN_FILE_SIZE)` work.  So `debug_assert_eq!(self.total, self.sent)` in
`all_work_sent` cannot fire after successful relays, for any `MIN_FILE_SIZE`. -/
theorem C18_progress_chunks_sum (minSz size : Nat) (lens : List Nat) (h : ReachesAtEnd size 0 lens) :
    sumPartial minSz size 0 lens = forCopyFile minSz size := by
  obtain ⟨h1, h2⟩ := sumPartial_prefix minSz size lens [] 0 (by rwa [List.append_nil])
  have : lens.sum = size := by simpa using h2 rfl
  rw [h1, this, forCopyFile]
  simp only [↓reduceIte, PV.mk.injEq, and_true]; split <;> omega

/-- **`sent ≤ total` at every moment of a relay**: after any initial part of the chunks the file counts
at most once, at most `size` bytes and at most `max(size, MIN_FILE_SIZE)` work
(`debug_assert!(self.sent.copy <= self.total.copy)` in `get_progress_marker`). -/
theorem C18_progress_prefix_le (minSz size : Nat) (lens : List Nat) (start : Nat) (h : ReachesAtEnd size start lens)
    (pre suf : List Nat) (hsplit : lens = pre ++ suf) :
    (sumPartial minSz size start pre).copy ≤ 1 ∧ (sumPartial minSz size start pre).copyBytes ≤ lens.sum ∧
    (sumPartial minSz size start pre).work ≤ (if size > minSz then lens.sum else minSz) := by
  subst hsplit
  rw [(sumPartial_prefix minSz size pre suf start h).1, List.sum_append_nat]
  refine ⟨by simp only; split <;> simp, Nat.le_add_right _ _, ?_⟩
  simp only; split
  · exact Nat.le_add_right _ _
  · split <;> simp

/-- the guard is needed: a stream in which an (empty) chunk follows the one that reached the size counts
the file twice — `sent.copy = 2 > total.copy = 1`, the assertion would fire in a debug build.  The
look-ahead reader never produces such a stream (`C11_chunks_nonempty`), and a doer that did would be a broken peer,
not an input. -/
theorem C18_progress_double_count_witness : (sumPartial 10 4 0 [4, 0]).copy = 2 := by decide

/-- Non-vacuity: 4096 + 8192 + 100 bytes reach 12388 with the last chunk -/
example : ReachesAtEnd 12388 0 [4096, 8192, 100] ∧ sumPartial 1048576 12388 0 [4096, 8192, 100] = forCopyFile 1048576 12388 := by
  refine ⟨by simp [ReachesAtEnd], by decide⟩

/-! ### sums of file lengths saturate (C18-F11) -/

/-- the byte sums of the source are the saturating ones the theorems below are about -/
theorem C18_byte_sums_saturate : Generated.byteSumsSaturate = true := by decide

theorem satFold (cap : Nat) (l : List Nat) (a : Nat) (ha : a ≤ cap) :
    l.foldl (satAdd cap) a = min (a + l.sum) cap := by
  induction l generalizing a with
  | nil => simp [Nat.min_eq_left ha]
  | cons x xs ih =>
    rw [List.foldl_cons, List.sum_cons, ih (satAdd cap a x) (Nat.min_le_right ..), satAdd]
    omega

/-- **No length can overflow a sum**: whatever the lengths (sparse files may add up to more than 2^64), a saturating
sum never exceeds the cap — there is no value at which the addition panics. -/
theorem C18_saturating_bounded (cap : Nat) (l : List Nat) : l.foldl (satAdd cap) 0 ≤ cap := by
  rw [satFold cap l 0 (Nat.zero_le _)]; omega

/-- **The assertions about progress sums survive saturation**: `all_work_sent` asserts `total == sent` — two
saturating sums of lists with the same exact sum (the plan's entries; the chunks actually sent: `C18_progress_chunks_sum`)
are equal, in whatever order and grouping they were added; `get_progress_marker` asserts `sent ≤ total` — a saturating sum
is monotone in the exact sum. -/
theorem C18_saturating_sums_agree (cap : Nat) (l1 l2 : List Nat) :
    (l1.sum = l2.sum → l1.foldl (satAdd cap) 0 = l2.foldl (satAdd cap) 0) ∧
    (l1.sum ≤ l2.sum → l1.foldl (satAdd cap) 0 ≤ l2.foldl (satAdd cap) 0) := by
  rw [satFold cap l1 0 (Nat.zero_le _), satFold cap l2 0 (Nat.zero_le _)]
  constructor
  · intro h; rw [h]
  · intro h; omega

/-- the witness of C18-F11: three files of 2^63-1 bytes add up to more than `u64::MAX`; the saturating sum is the cap -/
example : [2^63 - 1, 2^63 - 1, 2^63 - 1].foldl (satAdd (2^64 - 1)) 0 = 2^64 - 1 ∧ (2^63 - 1) * 3 > 2^64 - 1 := by decide

end Rj.C18
