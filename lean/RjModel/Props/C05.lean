import RjModel.Lemmas.BossTraces
import RjModel.Generated.Sites
/-! # C05 — `--dry-run` changes nothing and predicts exactly what a real run does -/
namespace Rj.C05

/-- **A dry run sends nothing that changes or reads file contents**: for every scenario and every
behaviour setting the source gets only `SetRoot`/`GetEntries` (not even `GetFileContent`) and the
destination gets no mutating command (so `CreateRootAncestors` is not sent either). -/
theorem C05_dry_readonly (w : Wrap) (sc : Scenario) (hd : sc.dryRun = true) :
    (∀ c ∈ (run w sc).srcTrace, (∃ r, c = .setRoot r) ∨ (∃ f, c = .getEntries f)) ∧
    (∀ c ∈ (run w sc).destTrace, c.mutating = false) := by
  exact run_ok (PS := fun c => (∃ r, c = .setRoot r) ∨ (∃ f, c = .getEntries f)) (PD := fun c => c.mutating = false) w sc
    { sSetRoot := fun r => .inl ⟨r, rfl⟩
      sGetEntries := fun f _ => .inr ⟨f, rfl⟩
      sGetFile := fun h => by simp [hd] at h
      dSetRoot := fun _ => rfl
      dGetEntries := fun _ _ => rfl
      dMarker := fun _ => rfl
      dMutating := fun h => by simp [hd] at h }

/-- **The same on the source text**: every site that sends a mutating command to the destination,
and the site that fetches file contents from the source, sits inside an `if !ctx.dry_run` block. -/
theorem C05_sites_guarded :
    ∀ s ∈ Generated.sites,
      (s.handle = "dest" ∧ s.variant ∈ ["CreateRootAncestors", "CreateOrUpdateFile", "CreateSymlink", "CreateFolder",
                                          "DeleteFile", "DeleteFolder", "DeleteSymlink", "Opaque"]) ∨
      (s.handle = "src" ∧ s.variant = "GetFileContent") → s.dryGuarded = true := by
  decide

/-- all seven action kinds and the fetch of file contents have a site in the source (the guard theorem is not vacuous) -/
theorem C05_sites_present :
    ∀ v ∈ ["CreateRootAncestors", "CreateOrUpdateFile", "CreateSymlink", "CreateFolder", "DeleteFile", "DeleteFolder",
           "DeleteSymlink", "GetFileContent"], ∃ s ∈ Generated.sites, s.variant = v := by
  decide

def wouldDelete (c : Ctx) (e : String × (Details × DelReason)) : String :=
  s!"Would delete {c.prettyDest e.1 (kindName e.2.1)}"

/-- **Prediction, deletions**: with the same plan, the dry run prints one "Would delete" line per
planned deletion, in the order in which the real run sends the delete commands, and both count the
same statistics. -/
theorem C05_prediction_deletes (c : Ctx) (l : List (String × (Details × DelReason))) (x : XState) (st : Stats) :
    let dry := deleteLoop { c with dryRun := true } none l x st
    let real := deleteLoop { c with dryRun := false } none l x st
    dry.1 = none ∧ real.1 = none ∧
    dry.2.1.log = x.log ++ l.map (wouldDelete c) ∧ dry.2.1.dest = x.dest ∧
    real.2.1.dest = x.dest ++ l.map (fun e => deleteCmd e.1 e.2.1) ∧ real.2.1.log = x.log ∧
    dry.2.2 = real.2.2 := by
  simp only [deleteLoop_none]
  simp [XState.afterDeletes, XState.ext, Ctx.real, wouldDelete, Ctx.prettyDest]

/-- **Prediction, copies (per entry)**: whenever the real copy of an entry succeeds, the dry run
counts it exactly as the real run does (files once per file, not once per chunk), and prints one
line for it. -/
theorem C05_prediction_copy_entry (c : Ctx) (files : List (String × FileScript)) (p : String) (d : Details)
    (x y x' : XState) (st st' : Stats)
    (h : copyOne { c with dryRun := false } none files p d x st = (none, x', st')) :
    (copyOne { c with dryRun := true } none files p d y st).1 = none ∧
    (copyOne { c with dryRun := true } none files p d y st).2.2 = st' ∧
    (copyOne { c with dryRun := true } none files p d y st).2.1.log.length = y.log.length + 1 ∧
    (copyOne { c with dryRun := true } none files p d y st).2.1.dest = y.dest := by
  have hst : st' = st.addCopy d := by
    obtain ⟨_, _, h1, -⟩ | ⟨-, _, _, _, _, -, -, h1⟩ := copyOne_spec { c with dryRun := false } none files p d x st
    · rw [h] at h1; cases h1; rfl
    · rw [h] at h1; cases h1
  obtain ⟨G, _, h1, hG, -⟩ | ⟨hd, -⟩ := copyOne_spec { c with dryRun := true } none files p d y st
  · rw [h1, hst]; simp [XState.ext, Ctx.real, hG]
  · cases hd

/-- Non-vacuity: a dry run over a plan with a deletion and a copy prints two lines and a summary,
and sends nothing mutating. -/
example :
    let sc : Scenario :=
      { srcRoot := "S", destRoot := "D", dryRun := true, beh := ⟨.proceed, .proceed, .skip, .proceed, .proceed⟩, filters := [],
        srcReply := .details (some .folder) false '/', destReply := .details (some .folder) false '/', destReply2 := .other,
        events := [.entry .src "f" (.file 5 1), .entry .dest "g" (.file 1 1), .endOf .src, .endOf .dest],
        answers := [], files := [], errAtPoll := none }
    (run ⟨"^(?:", ")$"⟩ sc).destTrace = [.setRoot "D", .getEntries [], .marker .copying, .marker .done] ∧
    (run ⟨"^(?:", ")$"⟩ sc).log.length = 4 := by
  decide

end Rj.C05
