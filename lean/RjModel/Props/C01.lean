import RjModel.Props.C13
import RjModel.Lemmas.BossLoops
import RjModel.Generated.SlashTable
import RjModel.Lemmas.SyncLemmas
import RjModel.Lemmas.ListingLemmas
import RjModel.Lemmas.DoerLemmas
import RjModel.Lemmas.ComposeLemmas
import RjModel.Lemmas.PlanBridge
import RjModel.Generated.DeleteCmd
import RjModel.Generated.ConfirmShape
import RjModel.Model.ConfirmShape
/-! # C01 — a successful sync makes the destination a mirror of the source

What is proved (for every tree pair, arrival order and poll schedule):
* the trailing-slash table of `docs/notes.md` (all cells, file and symlink variants): `C01_slash_table`;
* the plan is the order-free closed form (C13) and, applied as "(destination − deletions) overlaid
  with the copies", gives at **every** path the source's entry, or leaves a destination entry the boss
  deems equal (same-time file, folder, equal link); nothing else survives: `C01_plan_mirror`, `C01_mirror_every_order`;
* the delete loop and the copy loop of a real run, when they end without error, sent **exactly** one delete per
  planned deletion and exactly the creations of the planned copies (for files: the source's chunks, time stamp on
  the last, C11), in plan order: `C01_delete_trace`, `C01_copy_trace`;
* on the file-system model the plan, executed as the doer's calls, ends `ok` in the mirror state - with and without
  filters, for given listings and for the model's own: `C01_mirror_fs` to `C01_mirror_two_trees_filtered`;
* the doer model executing the command trace of that plan is `syncDest` (`C01_doer_trace_is_syncDest`,
  `C01_mirror_two_trees_by_commands`), and the boss's two action lists, spelled as commands, are that trace for every
  arrival order (`C01_boss_lists_are_the_plan`);
* `delete_dest_entry`, translated on every run, is `deleteCmd`, and `copy_entry` keeps the shape the model was written
  against (`C01_delete_command_is_the_sources`, `C01_copy_entry_shape`).

Not proved: that the confirmation pass, which stands between the planner's lists and the loops, keeps the whole plan
when nothing is skipped (C03 has this for the deletions only, `C03_proceed_no_prompt`); the two trace theorems speak of
the loops of the execution phase, not of `run`.

What is validated rather than proved (PARTIAL): that the doer's operations have exactly that effect
on a real file system — checked end to end by the L3/L4 correspondence with an independent tree
comparison in all four placements. -/
namespace Rj.C01

/-- **The trailing-slash table** of `docs/notes.md` (re-extracted on every run), all 36 cells, with
file *and* symlink variants of "File or symlink": the boss model rejects exactly the forbidden
combinations, puts a file/symlink source inside a trailing-slash destination (`b/a`), replaces the
destination object itself otherwise, and consults the root-deletion gate wherever the table shows `!`. -/
theorem C01_slash_table : Generated.slashTableRecognised = true ∧ Generated.slashTable.all rowHolds = true := by
  decide

/-- Non-vacuity of the table theorem's model side: a file source into a trailing-slash folder
destination lands inside it (`b/a`), a folder source with a trailing slash on a missing destination
creates it, a file source with a trailing slash is refused. -/
example : Generated.slashTable.length = 6 ∧
    modelCell (some (.file 1 1)) (some .folder) false true = .ba ∧
    modelCell (some .folder) none true true = .b false ∧
    modelCell (some (.file 1 1)) none true false = .x := by decide

/-- entries the boss deems equal (no action) -/
def deemedEqual (c : PCfg) : Details → Details → Bool
  | .file sm _, .file dm _ => sm = dm
  | .folder, .folder => true
  | .symlink sk st, .symlink dk dt => st = dt && (sk = dk || !c.destDiff)
  | _, _ => false

/-- the destination after the plan took effect: deletions removed, copies put in place -/
def post (del : String → Option (Details × DelReason)) (cpy : String → Option (Details × CopyReason))
    (dst : String → Option Details) (p : String) : Option Details :=
  match cpy p with
  | some (e, _) => some e
  | none => match del p with
    | some _ => none
    | none => dst p

/-- **Mirror, pointwise.**  With the closed-form plan, at every path: nothing where the source has
nothing; where the source has `e`, either `e` itself was put there, or the destination's own entry
stays and the boss deems it equal to `e`. -/
theorem C01_plan_mirror (c : PCfg) (src dst : String → Option Details) (p : String) :
    match src p with
    | none => post (delSpec c src dst) (cpySpec c src dst) dst p = none
    | some e => post (delSpec c src dst) (cpySpec c src dst) dst p = some e ∨
        ∃ d, dst p = some d ∧ post (delSpec c src dst) (cpySpec c src dst) dst p = some d ∧ deemedEqual c e d = true := by
  cases hs : src p with
  | none =>
    simp only [post, cpySpec, delSpec, hs]
    cases dst p <;> simp
  | some e =>
    simp only [post, cpySpec, delSpec, hs]
    cases hd : dst p with
    | none => simp
    | some d =>
      by_cases hdel : needsDelete c e d = true
      · simp [hdel]
      · simp only [hdel, Bool.false_eq_true, ↓reduceIte]
        cases hc : needsCopy c e d with
        | some r => simp
        | none =>
          right
          refine ⟨d, rfl, by simp, ?_⟩
          -- kinds that differ are deleted; two files: no copy means equal times;
          -- two links: `needsDelete` compared target and kind
          cases e <;> cases d <;> simp [needsDelete, needsCopy, deemedEqual] at hdel hc ⊢
          · exact Classical.byContradiction fun h => by rw [if_neg h] at hc; split at hc <;> cases hc
          · exact ⟨hdel.1, Classical.or_iff_not_imp_left.mpr hdel.2⟩

/-- a same-time file is left alone only if `--files-same-time` is `skip` at planning time: otherwise, where both
sides hold a file, the source's is put there -/
theorem C01_same_time_overwrite (c : PCfg) (h : c.sameTimeSkip = false) (src dst : String → Option Details) (p : String)
    (sm ss dm ds : _) (hs : src p = some (.file sm ss)) (hd : dst p = some (.file dm ds)) :
    post (delSpec c src dst) (cpySpec c src dst) dst p = some (.file sm ss) := by
  -- two files are never deleted, and without `skip` every comparison of their times gives a copy reason
  obtain ⟨r, hr⟩ : ∃ r, needsCopy c (.file sm ss) (.file dm ds) = some r := by
    simp only [needsCopy, h]
    split
    · exact ⟨_, rfl⟩
    · split <;> exact ⟨_, rfl⟩
  simp [post, cpySpec, hs, hd, needsDelete, hr]

/-- **Mirror for every arrival order**: whatever the interleaving of the two listings, the plan the
boss ends the query phase with has the mirror property at every path. -/
theorem C01_mirror_every_order (c : PCfg) (evs : List Ev)
    (hs : ((srcOf evs).map (·.1)).Nodup) (hd : ((dstOf evs).map (·.1)).Nodup) :
    ∃ s, prun c PState.init evs = some s ∧ ∀ p,
      match lookup (srcOf evs).reverse p with
      | none => post s.del.get s.cpy.get (lookup (dstOf evs).reverse) p = none
      | some e => post s.del.get s.cpy.get (lookup (dstOf evs).reverse) p = some e ∨
          ∃ d, lookup (dstOf evs).reverse p = some d ∧
            post s.del.get s.cpy.get (lookup (dstOf evs).reverse) p = some d ∧ deemedEqual c e d = true := by
  obtain ⟨s, h, hdel, hcpy⟩ := C13.C13_closed_form c evs hs hd
  refine ⟨s, h, fun p => ?_⟩
  rw [funext hdel, funext hcpy]
  exact C01_plan_mirror c _ _ p

/-- **Deletions sent = deletions planned**, one command each, in plan order. -/
theorem C01_delete_trace (c : Ctx) (hdry : c.dryRun = false) (errAt : Option Nat)
    (l : List (String × (Details × DelReason))) (x x' : XState) (st st' : Stats)
    (h : deleteLoop c errAt l x st = (none, x', st')) :
    x'.dest = x.dest ++ l.map (fun it => deleteCmd it.1 it.2.1) ∧ x'.src = x.src := by
  cases h.symm.trans (deleteLoop_done (congrArg Prod.fst h))
  simp [XState.afterDeletes, XState.ext, Ctx.real_eq hdry]

/-- **Creations sent = copies planned**: folders and links by one command, files by exactly the
source's chunks with the time stamp on the last one (that their lengths add up to the listed size is `C11_copy_file_ok`). -/
theorem C01_copy_trace (c : Ctx) (hdry : c.dryRun = false) (errAt : Option Nat) (files : List (String × FileScript))
    (l : List (String × (Details × CopyReason))) (x x' : XState) (st st' : Stats)
    (h : copyLoop c errAt files l x st = (none, x', st')) :
    x'.dest = x.dest ++ l.flatMap (fun it => copyCmds files it.1 it.2.1) := by
  obtain ⟨S, D, G, n, e, st2, h2, -, -, -, hD⟩ := copyLoop_spec c errAt files l x st
  cases h.symm.trans h2
  rw [hD rfl]
  exact congrArg (x.dest ++ ·) (Ctx.real_eq hdry _)

/-- **Mirror, end to end on the file-system model.**  For every destination tree below the doer's
root `r` (root and its ancestors are folders; tree-closed; listed completely, parents first) and every
source tree (tree-closed, listed parents first, link targets as a doer reads them): executing the plan
— the closed form of C13 on component paths: deletions in reverse listing order, then creations in
source listing order, each as the doer's file-system calls — **never fails and never follows a link**
(the result is `ok`, not `err`/`escape`), changes **nothing outside the root**, keeps the root a
folder, and leaves at **every** relative path exactly what the source holds there: nothing where the
source has nothing; a folder; the source's bytes with the source's time (or the destination's own
file when it already carried that time: deemed up to date); a link whose text reads back as the
source's target. -/
theorem C01_mirror_fs {fs0 : FS} {r : FPath} {ld : List (FPath × Node)} {src : FPath → Option SEntry}
    {ls : List (FPath × SEntry)} (hw : DestWF (fun _ => true) fs0 r ld) (hs : SrcWF (fun _ => true) src ls) :
    ∃ fs', syncDest fs0 r src ls ld = .ok fs' ∧
      (∀ q, ¬ r <+: q → fs'.get q = fs0.get q) ∧
      fs'.get r = some .folder ∧
      ∀ p, p ≠ [] → MirrorAt fs0 fs' r p (src p) := by
  obtain ⟨fs', h1, h2, h3, h4, -⟩ := sync_mirror hw hs (fun _ _ _ _ _ => rfl)
  exact ⟨fs', h1, h2, h3, fun p hp => h4 p hp rfl⟩

/-- **Mirror under filters.**  `vis p` says whether the filters let the relative path `p` through (the
same verdict on both sides: C06); both listings hold exactly the visible entries (`DestWF.listed`,
`SrcWF.listed`), and what is visible has visible ancestors (an excluded folder is not entered).  Under
the one extra assumption that a destination folder the plan deletes holds nothing the filters hide
(`hsafe`: otherwise the deletion fails, `C07_nonempty_folder_fails`), the run ends `ok`, follows no
link, changes nothing outside the root, reaches the mirror state at **every visible path** and leaves
**every hidden path exactly as it was**. -/
theorem C01_mirror_filtered {vis : FPath → Bool} {fs0 : FS} {r : FPath} {ld : List (FPath × Node)}
    {src : FPath → Option SEntry} {ls : List (FPath × SEntry)}
    (hw : DestWF vis fs0 r ld) (hs : SrcWF vis src ls)
    (hsafe : ∀ p c n, (p, Node.folder) ∈ planDel src ld → fs0.get (r ++ (p ++ [c])) = some n → vis (p ++ [c]) = true) :
    ∃ fs', syncDest fs0 r src ls ld = .ok fs' ∧
      (∀ q, ¬ r <+: q → fs'.get q = fs0.get q) ∧
      fs'.get r = some .folder ∧
      (∀ p, p ≠ [] → vis p = true → MirrorAt fs0 fs' r p (src p)) ∧
      (∀ p, vis p = false → fs'.get (r ++ p) = fs0.get (r ++ p)) :=
  sync_mirror hw hs hsafe

/-- **… with the destination's own listing**: the assumptions about the destination listing are met by
the model's own listing function (`C17_listing_exact_fs`), so for a file-system value with one entry per
path, a root folder with folder ancestors and a tree-closed destination below it, the sync on the
listing the doer model itself produces ends in the mirror state. -/
theorem C01_mirror_fs_own_listing (fs0 : FS) (hwf : fs0.Wf) (r : FPath)
    (hroot : fs0.get r = some .folder) (hanc : ∀ k, k < r.length → fs0.get (r.take k) = some .folder)
    (hclosed : ∀ p, p ≠ [] → fs0.get (r ++ p) ≠ none → fs0.get (r ++ p.dropLast) = some .folder)
    (f : Nat) (hfuel : ∀ p, fs0.get (r ++ p) ≠ none → p.length ≤ f)
    {src : FPath → Option SEntry} {ls : List (FPath × SEntry)} (hs : SrcWF (fun _ => true) src ls) :
    ∃ fs', syncDest fs0 r src ls ((listNodes fs0 f r).map fun e => (e.1.drop r.length, e.2)) = .ok fs' ∧
      (∀ q, ¬ r <+: q → fs'.get q = fs0.get q) ∧
      fs'.get r = some .folder ∧
      ∀ p, p ≠ [] → MirrorAt fs0 fs' r p (src p) :=
  C01_mirror_fs (destWF_of_listNodes fs0 hwf r hroot hanc hclosed f hfuel) hs

/-- **Mirror, for every source tree and every destination tree** (both as file-system values): a
source tree below `rs` holding files, folders and links (tree-closed), a destination below `rd` (any
tree-closed content: files, folders, links, special files) — the listings are the model's own
(`listNodes`), the plan is the closed form, the execution is the doer's calls: the run ends `ok`,
follows no link, touches nothing outside `rd`, and at every relative path the destination ends up with
what the source holds there (`MirrorAt`).  No assumption about listings or orders is left: they are
consequences (`C17_listing_exact_fs`).  The listing is `listNodes` on the nodes as they are: it also lists what a doer
cannot report (a special file, a time before the epoch, a name with a backslash), where the doer's `GetEntries` — model
and code — answers with an error and the real run ends there; `C17_getentries_is_listing` has the hypothesis `Reportable`. -/
theorem C01_mirror_two_trees (S D : FS) (rs rd : FPath) (fS fD : Nat)
    (hS : SrcTreeOk S rs fS) (hD : D.Wf)
    (hroot : D.get rd = some .folder) (hanc : ∀ k, k < rd.length → D.get (rd.take k) = some .folder)
    (hclosed : ∀ p, p ≠ [] → D.get (rd ++ p) ≠ none → D.get (rd ++ p.dropLast) = some .folder)
    (hfuel : ∀ p, D.get (rd ++ p) ≠ none → p.length ≤ fD) :
    ∃ D', syncDest D rd (srcOfFS S rs) (lsOfFS S rs fS)
        ((listNodes D fD rd).map fun e => (e.1.drop rd.length, e.2)) = .ok D' ∧
      (∀ q, ¬ rd <+: q → D'.get q = D.get q) ∧
      D'.get rd = some .folder ∧
      ∀ p, p ≠ [] → MirrorAt D D' rd p (srcOfFS S rs p) :=
  C01_mirror_fs (destWF_of_listNodes D hD rd hroot hanc hclosed fD hfuel) (srcWF_of_tree S rs fS hS)

/-- **Mirror under filters, for every source tree and every destination tree**: both sides list with the same filter
verdict `keep` on relative paths (C06), an entry that is not kept being neither reported nor entered
(`C17_listing_exact_filtered`).  Under the one assumption that no destination folder the plan deletes holds something the
walk does not reach (`hsafe`; otherwise the deletion fails: `C07_nonempty_folder_fails`), the run ends `ok`, follows no
link, touches nothing outside `rd`, reaches the mirror state at every path the walk reaches (`visOf keep`) and leaves
every other path below `rd` exactly as it was. -/
theorem C01_mirror_two_trees_filtered (keep : FPath → Bool) (S D : FS) (rs rd : FPath) (fS fD : Nat)
    (hS : SrcTreeOk S rs fS) (hD : D.Wf)
    (hroot : D.get rd = some .folder) (hanc : ∀ k, k < rd.length → D.get (rd.take k) = some .folder)
    (hclosed : ∀ p, p ≠ [] → D.get (rd ++ p) ≠ none → D.get (rd ++ p.dropLast) = some .folder)
    (hfuel : ∀ p, D.get (rd ++ p) ≠ none → p.length ≤ fD)
    (hsafe : ∀ p c n,
      (p, Node.folder) ∈ planDel (srcOfFS S rs) ((listNodesF keep rd D fD rd).map fun e => (e.1.drop rd.length, e.2)) →
      D.get (rd ++ (p ++ [c])) = some n → visOf keep (p ++ [c]) = true) :
    ∃ D', syncDest D rd (srcOfFS S rs) (lsOfFSF keep S rs fS)
        ((listNodesF keep rd D fD rd).map fun e => (e.1.drop rd.length, e.2)) = .ok D' ∧
      (∀ q, ¬ rd <+: q → D'.get q = D.get q) ∧
      D'.get rd = some .folder ∧
      (∀ p, p ≠ [] → visOf keep p = true → MirrorAt D D' rd p (srcOfFS S rs p)) ∧
      (∀ p, visOf keep p = false → D'.get (rd ++ p) = D.get (rd ++ p)) :=
  sync_mirror (destWF_of_listNodesF keep D hD rd hroot hanc hclosed fD hfuel) (srcWF_of_treeF keep S rs fS hS) hsafe

/-- how an entry of the file-system model appears in a listing (`entry_details_from_metadata`; the
link kind `k` is whatever the probe gives: a unix destination does not compare it) -/
def dOfNode (k : SymKind) : Node → Details
  | .file b (.at m) => .file m b.length
  | .file b .fresh => .file (-1) b.length
  | .folder => .folder
  | .symlink text => .symlink k (readLinkB text)
  | .special => .folder      -- (never listed: the listing fails on it)

def dOfSEntry (k : SymKind) : SEntry → Details
  | .file b m => .file m b.length
  | .folder => .folder
  | .link t => .symlink k t

/-- **The plan on the file-system model is the boss's plan**: `compatible` is `needs_delete = false`
and `upToDate` is "`needs_delete = false` and `needs_copy = None`" of `boss_sync.rs` (C13's closed
form is stated with these two functions), for a unix destination with same-time files skipped and
source times at or after the epoch. -/
theorem C01_plan_bridge (ks kd : SymKind) (e : SEntry) (n : Node) (hn : n ≠ .special)
    (hm : ∀ b m, e = .file b m → 0 ≤ m) :
    needsDelete ⟨true, false⟩ (dOfSEntry ks e) (dOfNode kd n) = !compatible e n ∧
    (compatible e n = true → ((needsCopy ⟨true, false⟩ (dOfSEntry ks e) (dOfNode kd n)).isNone = upToDate e n)) := by
  cases n with
  | special => exact absurd rfl hn
  | folder => cases e <;> simp [dOfSEntry, dOfNode, needsDelete, needsCopy, compatible, upToDate]
  | symlink text => cases e <;> simp [dOfSEntry, dOfNode, needsDelete, needsCopy, compatible, upToDate]
  | file b' mt =>
    cases e with
    | file b m =>
      -- two files are compatible; no copy iff the times agree (an unset time is listed as -1, which no source time is)
      have hm0 := hm b m rfl
      cases mt with
      | «at» m' =>
        simp only [dOfSEntry, dOfNode, needsDelete, needsCopy, compatible, upToDate, Bool.not_true, true_and, forall_const]
        by_cases h : m = m'
        · simp [h]
        · rw [if_neg h, decide_eq_false h]
          split <;> rfl
      | fresh =>
        simp only [dOfSEntry, dOfNode, needsDelete, needsCopy, compatible, upToDate, Bool.not_true, true_and, forall_const]
        rw [if_neg (by omega)]
        split <;> rfl
    | _ => cases mt <;> simp [dOfSEntry, dOfNode, needsDelete, compatible]

/-- **The operations of `syncDest` are what the doer model executes** for the boss's commands: with the
root set (not spelled with a trailing slash) and a normalised relative path, `DeleteFolder`,
`DeleteFile`/`DeleteSymlink`, `CreateFolder` and `CreateSymlink` are exactly `rmdir`, `unlink`,
`mkdir` and `symlink(writeLinkB target)` at `root ++ path`, answered with an error response iff the
call fails. -/
theorem C01_exec_bridge (k : ChunkCfg) (keepOf : List FilterSpec → String → Bool) (st : DoerSt) (r p : FPath) (ps : String)
    (hr : st.root = some (r, false)) (hp : relComps ps = some p) :
    execCmd k keepOf st (.deleteFolder ps) = reply st (st.fs.rmdir (r ++ p)) .deleteFolder ∧
    execCmd k keepOf st (.deleteFile ps) = reply st (st.fs.unlink (r ++ p)) .deleteFile ∧
    (∀ kd, execCmd k keepOf st (.deleteSymlink ps kd) = reply st (st.fs.unlink (r ++ p)) .deleteSymlink) ∧
    execCmd k keepOf st (.createFolder ps) = reply st (st.fs.mkdir (r ++ p)) .createFolder ∧
    (∀ kd t, execCmd k keepOf st (.createSymlink ps kd t) =
      reply st (st.fs.mksymlink (r ++ p) (writeLinkB '/' t)) .createSymlink) :=
  have b := fun c hc => execCmd_at k keepOf (c := c) hr hp hc
  ⟨b _ rfl, b _ rfl, fun _ => b _ rfl, b _ rfl, fun _ _ => b _ rfl⟩

/-- … and a file sent in one part (`CreateOrUpdateFile` with the time stamp, nothing in progress) is
`putFile`: create/truncate, write, set the source's time. -/
theorem C01_exec_bridge_file (st : DoerSt) (ps : String) (full : FPath) (b : List UInt8) (m : Int)
    (h1 : st.inProg = none) (h2 : st.failed = none) (fs' : FS) (h : putFile st.fs full b m = .ok fs') :
    execCreateOrUpdate st ps full b (some m) false = .ok { st with fs := fs' } [] := by
  obtain ⟨fs1, hc, h⟩ := OpR.bind_eq_ok.mp h
  obtain ⟨fs2, ha, h⟩ := OpR.bind_eq_ok.mp h
  simp [execCreateOrUpdate, h1, h2, hc, ha, h, reply]

/-- Non-vacuity: a destination root holding a stale file, a folder with a child and a link; a source with
a folder, a file in it and a link with a non-normal text.  The run ends `ok` in the mirror state. -/
example :
    let fs0 : FS := ⟨[(["R".toList], .folder), (["R".toList, "old".toList], .file [1] (.at 5)),
      (["R".toList, "d".toList], .folder), (["R".toList, "d".toList, "x".toList], .symlink (utf8 "nowhere".toList)),
      (["R".toList, "l".toList], .symlink (utf8 "b".toList))]⟩
    let src : FPath → Option SEntry := fun p =>
      if p = ["d".toList] then some .folder else if p = ["d".toList, "f".toList] then some (.file [7, 8] 9)
      else if p = ["l".toList] then some (.link (readLinkB (utf8 "a//b/".toList))) else none
    let ls : List (FPath × SEntry) := [(["d".toList], .folder), (["d".toList, "f".toList], .file [7, 8] 9),
      (["l".toList], .link (readLinkB (utf8 "a//b/".toList)))]
    let ld : List (FPath × Node) := [(["old".toList], .file [1] (.at 5)), (["d".toList], .folder),
      (["d".toList, "x".toList], .symlink (utf8 "nowhere".toList)), (["l".toList], .symlink (utf8 "b".toList))]
    (match syncDest fs0 ["R".toList] src ls ld with
    | .ok fs' =>
      decide (fs'.get ["R".toList, "old".toList] = none) && decide (fs'.get ["R".toList, "d".toList, "x".toList] = none) &&
      decide (fs'.get ["R".toList, "d".toList] = some .folder) &&
      decide (fs'.get ["R".toList, "d".toList, "f".toList] = some (.file [7, 8] (.at 9))) &&
      decide (fs'.get ["R".toList, "l".toList] = some (.symlink (utf8 "a/b".toList)))
    | _ => false) = true := by
  decide

/-- **The commands of a sync, executed by the doer model, are `syncDest`.**  Take the plan of `syncDest` and
spell it as the boss's destination trace: one `DeleteFile` / `DeleteSymlink` / `DeleteFolder` per planned deletion
(reverse listing order), the `Marker` that separates the phases, then per planned copy `CreateFolder`,
`CreateSymlink` or the file's parts as `CreateOrUpdateFile` commands - **cut into parts in any way** (`parts`;
every part but the last with `more_to_follow`, the time stamp with the last).  Run through `exec_command` of the
doer model from an idle doer whose root is set, this trace ends in exactly the file system `syncDest` computes:
no error response, no file left in progress, and never one of the outcomes outside the model (`escape`: the
kernel would follow a link; `panic`; a path that is not root-relative).  `C01_exec_bridge` says "the operations of
`syncDest` are what the doer executes" command by command; this is the one theorem for whole traces, chunked
files included (`exec_fileCmds`: any chunking is `File::create` + one `write_all` + `set_file_mtime`). -/
theorem C01_doer_trace_is_syncDest (k : ChunkCfg) (keepOf : List FilterSpec → String → Bool) (kd ks : FPath → SymKind)
    (parts : FPath → List (List UInt8) × List UInt8) (abs : List Comp) (r : FPath) (ph : Phase)
    (src : FPath → Option SEntry) (ls : List (FPath × SEntry)) (ld : List (FPath × Node)) (fs fs2 : FS)
    (hgd : ∀ x ∈ ld, GoodPath x.1) (hgc : ∀ x ∈ ls, GoodPath x.1)
    (hparts : ∀ x ∈ ls, ∀ b m, x.2 = .file b m → (parts x.1).1.flatten ++ (parts x.1).2 = b)
    (h : syncDest fs r src ls ld = .ok fs2) :
    execCmds k keepOf (idle fs abs r)
        ((planDel src ld).map (delCmdOf kd) ++
          (.marker ph :: (planCpy (fun p => fs.get (r ++ p)) ls).flatMap (cpyCmdsOf ks parts)))
      = (idle fs2 abs r,
         List.replicate (planDel src ld).length [] ++
           ([.marker] :: List.replicate ((planCpy (fun p => fs.get (r ++ p)) ls).flatMap (cpyCmdsOf ks parts)).length []),
         none) :=
  exec_trace_syncDest k keepOf kd ks parts abs r ph src ls ld fs fs2 hgd hgc hparts h

/-- the spelling is the boss model's: `deleteCmd` on the listed details of a destination node, and the chunk
commands `chunkCmd` of `copy_file` for a source stream that ends with its last part (what `C01_delete_trace` /
`C01_copy_trace` show the boss to send) -/
theorem C01_trace_spelling (k : SymKind) (p : FPath) (n : Node) (hn : n ≠ .special)
    (ps : String) (init : List (List UInt8)) (last : List UInt8) (m : Int) :
    deleteCmd (pathStr p) (dOfNode k n) = delCmdOf (fun _ => k) (p, n) ∧
    (init.map (fun c => (c, true)) ++ [(last, false)]).map (fun ch => chunkCmd ps ch.1 m ch.2) = fileCmds ps init last m := by
  refine ⟨?_, chunkCmds_eq ps init last m⟩
  cases n with
  | file b mt => cases mt <;> rfl
  | folder | symlink => rfl
  | special => exact absurd rfl hn

/-- **Mirror, for every source tree and every destination tree, by commands**: as `C01_mirror_two_trees`, but the
destination is changed by the doer model executing the command trace (names are names: no component is empty,
`.`, `..` or holds a slash - what a directory listing can return). -/
theorem C01_mirror_two_trees_by_commands (S D : FS) (rs rd : FPath) (fS fD : Nat)
    (hS : SrcTreeOk S rs fS) (hD : D.Wf)
    (hroot : D.get rd = some .folder) (hanc : ∀ k, k < rd.length → D.get (rd.take k) = some .folder)
    (hclosed : ∀ p, p ≠ [] → D.get (rd ++ p) ≠ none → D.get (rd ++ p.dropLast) = some .folder)
    (hfuel : ∀ p, D.get (rd ++ p) ≠ none → p.length ≤ fD)
    (k : ChunkCfg) (keepOf : List FilterSpec → String → Bool) (kd ks : FPath → SymKind)
    (parts : FPath → List (List UInt8) × List UInt8) (abs : List Comp) (ph : Phase)
    (hgd : ∀ x ∈ (listNodes D fD rd).map (fun e => (e.1.drop rd.length, e.2)), GoodPath x.1)
    (hgc : ∀ x ∈ lsOfFS S rs fS, GoodPath x.1)
    (hparts : ∀ x ∈ lsOfFS S rs fS, ∀ b m, x.2 = .file b m → (parts x.1).1.flatten ++ (parts x.1).2 = b) :
    ∃ D' outs,
      execCmds k keepOf (idle D abs rd)
        ((planDel (srcOfFS S rs) ((listNodes D fD rd).map fun e => (e.1.drop rd.length, e.2))).map (delCmdOf kd) ++
          (.marker ph :: (planCpy (fun p => D.get (rd ++ p)) (lsOfFS S rs fS)).flatMap (cpyCmdsOf ks parts)))
        = (idle D' abs rd, outs, none) ∧
      (∀ o ∈ outs, o = [] ∨ o = [.marker]) ∧
      (∀ q, ¬ rd <+: q → D'.get q = D.get q) ∧
      D'.get rd = some .folder ∧
      ∀ p, p ≠ [] → MirrorAt D D' rd p (srcOfFS S rs p) := by
  obtain ⟨D', h, h1, h2, h3⟩ := C01_mirror_two_trees S D rs rd fS fD hS hD hroot hanc hclosed hfuel
  refine ⟨D', _, C01_doer_trace_is_syncDest k keepOf kd ks parts abs rd ph _ _ _ D D' hgd hgc hparts h, ?_, h1, h2, h3⟩
  intro o ho
  simp only [List.mem_append, List.mem_replicate, List.mem_cons] at ho
  rcases ho with ⟨-, rfl⟩ | rfl | ⟨-, rfl⟩ <;> simp

/-- Non-vacuity of the composition: a stale file, a link and a file sent in three parts (one of them empty) -/
example :
    let fs0 : FS := ⟨[(["R".toList], .folder), (["R".toList, "old".toList], .file [1] (.at 5)),
      (["R".toList, "l".toList], .symlink (utf8 "b".toList))]⟩
    let src : FPath → Option SEntry := fun p =>
      if p = ["f".toList] then some (.file [7, 8, 9] 4)
      else if p = ["l".toList] then some (.link (readLinkB (utf8 "a//b/".toList))) else none
    let ls : List (FPath × SEntry) := [(["f".toList], .file [7, 8, 9] 4), (["l".toList], .link (readLinkB (utf8 "a//b/".toList)))]
    let ld : List (FPath × Node) := [(["old".toList], .file [1] (.at 5)), (["l".toList], .symlink (utf8 "b".toList))]
    let parts : FPath → List (List UInt8) × List UInt8 := fun _ => ([[7], [], [8]], [9])
    (match syncDest fs0 ["R".toList] src ls ld with
     | .ok fs' =>
        let r := execCmds ⟨4, 2, 16, 2⟩ (fun _ _ => true) (idle fs0 [] ["R".toList])
          ((planDel src ld).map (delCmdOf fun _ => .unknown) ++
            (.marker .copying ::
              (planCpy (fun p => fs0.get (["R".toList] ++ p)) ls).flatMap (cpyCmdsOf (fun _ => .unknown) parts)))
        decide (r.1.fs.get ["R".toList, "f".toList] = fs'.get ["R".toList, "f".toList]) &&
        decide (r.1.fs.get ["R".toList, "f".toList] = some (.file [7, 8, 9] (.at 4))) && decide (r.2.2 = none)
     | _ => false) = true := by
  decide

/-- at a listed destination entry the closed form plans a deletion iff `needDel` does -/
theorem delSpec_bridge (ks kd : SymKind) {src : FPath → Option SEntry} {S D : String → Option Details} {p : FPath} {n : Node}
    (hS : S (pathStr p) = (src p).map (dOfSEntry ks)) (hD : D (pathStr p) = some (dOfNode kd n)) (hn : n ≠ .special)
    (hm : ∀ b m, src p = some (.file b m) → 0 ≤ m) :
    (delSpec ⟨true, false⟩ S D (pathStr p)).isSome = needDel src (p, n) := by
  simp only [delSpec, hD, hS, needDel]
  cases hs : src p with
  | none => rfl
  | some e =>
    simp only [Option.map_some, (C01_plan_bridge ks kd e n hn fun b m he => hm b m (he ▸ hs)).1]
    cases compatible e n <;> rfl

/-- at a listed source entry the closed form plans a copy iff `needCpy` does -/
theorem cpySpec_bridge (ks kd : SymKind) {dst : FPath → Option Node} {S D : String → Option Details} {p : FPath} {e : SEntry}
    (hS : S (pathStr p) = some (dOfSEntry ks e)) (hD : D (pathStr p) = (dst p).map (dOfNode kd))
    (hn : ∀ n, dst p = some n → n ≠ .special) (hm : ∀ b m, e = .file b m → 0 ≤ m) :
    (cpySpec ⟨true, false⟩ S D (pathStr p)).isSome = needCpy dst (p, e) := by
  simp only [cpySpec, hD, hS, needCpy]
  cases hd : dst p with
  | none => rfl
  | some n =>
    obtain ⟨b1, b2⟩ := C01_plan_bridge ks kd e n (hn n hd) hm
    simp only [Option.map_some, b1]
    cases hc : compatible e n with
    | false =>
      have hu : upToDate e n = false := Bool.eq_false_iff.mpr fun hu => by rw [upToDate_compatible hu] at hc; cases hc
      simp [hu]
    | true => simp [← b2 hc]

/-- **The boss's two action lists are `planDel` / `planCpy`, as command lists, for every arrival order.**  Take a source
listing and a destination listing at component level (names are names, one entry per path, nothing special, source
times at or after the epoch) and let their entries reach the boss in *any* interleaving (`evs`).  Then the planner does
not panic, and what the boss then iterates - `to_delete` in reversed order, `to_copy` in order - spelled as the commands
it sends (`deleteCmd`; `copyCmds`, for source streams that deliver each file's bytes in parts) is **exactly**
the command list of `syncDest`'s plan (`delCmdOf` over `planDel`, `cpyCmdsOf` over `planCpy`).  With
`C01_delete_trace` / `C01_copy_trace` (these are the commands a run without error sent) and
`C01_doer_trace_is_syncDest` (the doer model executing them is `syncDest`) the chain from the arrival of the listings
to the final file system is closed by theorems. -/
theorem C01_boss_lists_are_the_plan (ks kd : SymKind) (ls : List (FPath × SEntry)) (ld : List (FPath × Node))
    (src : FPath → Option SEntry) (dst : FPath → Option Node) (evs : List Ev)
    (files : List (String × FileScript)) (parts : FPath → List (List UInt8) × List UInt8)
    (hes : srcOf evs = ls.map (fun x => (pathStr x.1, dOfSEntry ks x.2)))
    (hed : dstOf evs = ld.map (fun x => (pathStr x.1, dOfNode kd x.2)))
    (hgs : ∀ x ∈ ls, GoodPath x.1) (hgd : ∀ x ∈ ld, GoodPath x.1)
    (hns : (ls.map (·.1)).Nodup) (hnd : (ld.map (·.1)).Nodup)
    (hsp : ∀ x ∈ ld, x.2 ≠ .special) (hm : ∀ x ∈ ls, ∀ b m, x.2 = .file b m → 0 ≤ m)
    (hs1 : ∀ x ∈ ls, src x.1 = some x.2) (hs2 : ∀ p e, src p = some e → (p, e) ∈ ls)
    (hd1 : ∀ x ∈ ld, dst x.1 = some x.2) (hd2 : ∀ p n, dst p = some n → (p, n) ∈ ld)
    (hfiles : ∀ x ∈ ls, ∀ b m, x.2 = .file b m →
      C11.consumed (fileScript files (pathStr x.1)) = (parts x.1).1.map (fun c => (c, true)) ++ [((parts x.1).2, false)]) :
    ∃ s, prun ⟨true, false⟩ PState.init evs = some s ∧
      s.del.reverseOrder.iter.map (fun it => deleteCmd it.1 it.2.1) = (planDel src ld).map (delCmdOf (fun _ => kd)) ∧
      s.cpy.iter.flatMap (fun it => copyCmds files it.1 it.2.1) = (planCpy dst ls).flatMap (cpyCmdsOf (fun _ => ks) parts) := by
  obtain ⟨s, hrun, hdel, hcpy⟩ := plan_lists ⟨true, false⟩ evs
    (hes ▸ nodup_listing ls (dOfSEntry ks) hgs hns) (hed ▸ nodup_listing ld (dOfNode kd) hgd hnd)
  have hS : ∀ p, GoodPath p → lookup (srcOf evs).reverse (pathStr p) = (src p).map (dOfSEntry ks) :=
    fun p hp => hes ▸ lookup_listing ls (dOfSEntry ks) src hgs hns hs1 hs2 p hp
  have hD : ∀ p, GoodPath p → lookup (dstOf evs).reverse (pathStr p) = (dst p).map (dOfNode kd) :=
    fun p hp => hed ▸ lookup_listing ld (dOfNode kd) dst hgd hnd hd1 hd2 p hp
  generalize lookup (srcOf evs).reverse = S at *
  generalize lookup (dstOf evs).reverse = D at *
  refine ⟨s, hrun, ?_, ?_⟩
  · -- deletions: the reversed destination listing, filtered by the closed form / by `needDel`
    rw [hdel, hed, List.map_map, ← List.map_reverse, List.filterMap_map, planDel, ← List.filter_reverse,
      List.map_eq_flatMap, List.map_eq_flatMap]
    refine filterMap_flatMap_eq fun ⟨p, n⟩ hx => ?_
    have hx : (p, n) ∈ ld := List.mem_reverse.mp hx
    have hDp : D (pathStr p) = some (dOfNode kd n) := by rw [hD p (hgd _ hx), hd1 _ hx]; rfl
    refine ⟨?_, fun y hy => ?_⟩
    · simp only [Function.comp, Option.isSome_map]
      exact delSpec_bridge ks kd (hS p (hgd _ hx)) hDp (hsp _ hx) fun b m he => hm _ (hs2 p _ he) b m rfl
    · obtain ⟨v, hv, rfl⟩ := Option.map_eq_some_iff.mp hy
      rw [← (C01_trace_spelling kd p n (hsp _ hx) "" [] [] 0).1]
      exact congrArg (fun d => [deleteCmd (pathStr p) d]) (Option.some.inj ((delSpec_some hv).symm.trans hDp))
  · -- copies: the source listing, filtered by the closed form / by `needCpy`
    rw [hcpy, hes, List.map_map, List.filterMap_map, planCpy]
    refine filterMap_flatMap_eq fun ⟨p, e⟩ hx => ?_
    have hSp : S (pathStr p) = some (dOfSEntry ks e) := by rw [hS p (hgs _ hx), hs1 _ hx]; rfl
    refine ⟨?_, fun y hy => ?_⟩
    · simp only [Function.comp, Option.isSome_map]
      exact cpySpec_bridge ks kd hSp (hD p (hgs _ hx)) (fun n hn => hsp _ (hd2 p n hn)) (hm _ hx)
    · obtain ⟨v, hv, rfl⟩ := Option.map_eq_some_iff.mp hy
      have : v.1 = dOfSEntry ks e := Option.some.inj ((cpySpec_some hv).symm.trans hSp)
      simp only [this]
      -- the commands of an entry do not depend on the reason
      cases e with
      | folder => rfl
      | link t => rfl
      | file b m =>
        simp only [Function.comp, dOfSEntry, copyCmds, cpyCmdsOf]
        rw [hfiles (p, .file b m) hx b m rfl]
        exact chunkCmds_eq (pathStr p) (parts p).1 (parts p).2 m

/-- Non-vacuity (a *test* on one instance, the theorem is above): destination entries arriving before, between and after
the source's; the planner's lists spelled as commands are the plan's -/
example :
    let ls : List (FPath × SEntry) :=
      [(["a".toList], .file [1, 2] 7), (["d".toList], .folder), (["d".toList, "f".toList], .file [3] 1)]
    let ld : List (FPath × Node) :=
      [(["a".toList], .file [9] (.at 5)), (["d".toList], .file [1] (.at 1)), (["x".toList], .folder)]
    let src : FPath → Option SEntry := fun p => ls.lookup p
    let dst : FPath → Option Node := fun p => ld.lookup p
    let evs := [Ev.dst "a" (.file 5 1), .src "a" (.file 7 2), .src "d" .folder, .dst "d" (.file 1 1), .dst "x" .folder,
      .src "d/f" (.file 1 1)]
    (prun ⟨true, false⟩ PState.init evs).map (fun s => s.del.reverseOrder.iter.map (fun it => deleteCmd it.1 it.2.1))
      = some ((planDel src ld).map (delCmdOf (fun _ => .unknown))) ∧
    (prun ⟨true, false⟩ PState.init evs).map (fun s => s.cpy.iter.map (·.1))
      = some ((planCpy dst ls).map (fun x => pathStr x.1)) := by
  decide

/-- **The deletion command is the sources'**: the command `delete_dest_entry` builds for a destination entry (translated
from boss_sync.rs on every run: the `match` on the entry's kind, statistics updates dropped,
`Command::DeleteFile / DeleteFolder / DeleteSymlink` with the path and the link's kind) is the model's `deleteCmd`; the same
extractor checks that the command is sent to the destination, once, and only outside a dry run. -/
theorem C01_delete_command_is_the_sources :
    Generated.deleteCmdTranslated = true ∧ ∀ p d, Generated.deleteCmdSrc p d = deleteCmd p d :=
  ⟨by decide, fun p d => by cases d <;> rfl⟩

/-- **`copy_entry` (one creation command per source entry, to the destination, outside a dry run) still has the shape the
model was written against** - a pin like `C03_confirm_actions_shape`: the normalised text extracted on every run equals the
copy kept in `Model/ConfirmShape.lean`. -/
theorem C01_copy_entry_shape : Generated.copyEntryShape = copyEntryShapeRef := by rfl

/-- **The same, said of the functions as they are written today**: feed the arrivals through the functions *translated from
boss_sync.rs on this run* (`process_src_entry` / `process_dest_entry`: `C13.prunSrc`) and spell the deletions with the
translated `delete_dest_entry` - the two command lists are the plan's.  (`C01_boss_lists_are_the_plan` through
`C13_translated_run_is_prun` and `C01_delete_command_is_the_sources`.) -/
theorem C01_translated_lists_are_the_plan (ks kd : SymKind) (ls : List (FPath × SEntry)) (ld : List (FPath × Node))
    (src : FPath → Option SEntry) (dst : FPath → Option Node) (evs : List Ev)
    (files : List (String × FileScript)) (parts : FPath → List (List UInt8) × List UInt8)
    (hes : srcOf evs = ls.map (fun x => (pathStr x.1, dOfSEntry ks x.2)))
    (hed : dstOf evs = ld.map (fun x => (pathStr x.1, dOfNode kd x.2)))
    (hgs : ∀ x ∈ ls, GoodPath x.1) (hgd : ∀ x ∈ ld, GoodPath x.1)
    (hns : (ls.map (·.1)).Nodup) (hnd : (ld.map (·.1)).Nodup)
    (hsp : ∀ x ∈ ld, x.2 ≠ .special) (hm : ∀ x ∈ ls, ∀ b m, x.2 = .file b m → 0 ≤ m)
    (hs1 : ∀ x ∈ ls, src x.1 = some x.2) (hs2 : ∀ p e, src p = some e → (p, e) ∈ ls)
    (hd1 : ∀ x ∈ ld, dst x.1 = some x.2) (hd2 : ∀ p n, dst p = some n → (p, n) ∈ ld)
    (hfiles : ∀ x ∈ ls, ∀ b m, x.2 = .file b m →
      C11.consumed (fileScript files (pathStr x.1)) = (parts x.1).1.map (fun c => (c, true)) ++ [((parts x.1).2, false)]) :
    ∃ s, C13.prunSrc ⟨true, false⟩ PState.init evs = some s ∧
      s.del.reverseOrder.iter.map (fun it => Generated.deleteCmdSrc it.1 it.2.1) = (planDel src ld).map (delCmdOf (fun _ => kd)) ∧
      s.cpy.iter.flatMap (fun it => copyCmds files it.1 it.2.1) = (planCpy dst ls).flatMap (cpyCmdsOf (fun _ => ks) parts) := by
  obtain ⟨s, h1, h2, h3⟩ :=
    C01_boss_lists_are_the_plan ks kd ls ld src dst evs files parts hes hed hgs hgd hns hnd hsp hm hs1 hs2 hd1 hd2 hfiles
  refine ⟨s, by rw [C13.C13_translated_run_is_prun]; exact h1, ?_, h3⟩
  simp only [C01_delete_command_is_the_sources.2]
  exact h2

end Rj.C01
