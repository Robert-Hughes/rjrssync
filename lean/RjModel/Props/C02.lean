import RjModel.Lemmas.SyncLemmas
import RjModel.Lemmas.ListingLemmas
import RjModel.Lemmas.DoerLemmas
import RjModel.Lemmas.BossTraces
import RjModel.Generated.Sites
/-! # C02 — the source is never modified; nothing outside the destination is touched
(boss side: which commands each doer can ever be sent; doer side, over the file-system model: what one executed command may
change, and that a whole sync stays below the destination root and follows no link) -/
namespace Rj.C02

/-- **The source doer is only ever asked to report its root, list entries and read file contents**
(and, at the end, to shut down) — for every scenario: any replies (errors and unexpected variants included), any arrival order of
the listings, any behaviours and prompt answers, dry run or not, any moment at which a destination
error becomes visible. -/
theorem C02_src_trace (w : Wrap) (sc : Scenario) : ∀ c ∈ (run w sc).srcTrace, c.readOnly = true := by
  exact (run_ok (PS := fun c => c.readOnly = true) (PD := fun _ => True) w sc
    { sSetRoot := fun _ => rfl
      sGetEntries := fun _ _ => rfl
      sGetFile := fun _ _ => rfl
      dSetRoot := fun _ => trivial
      dGetEntries := fun _ _ => trivial
      dMarker := fun _ => trivial
      dMutating := fun _ _ _ => trivial }).1

/-- no mutating command is ever sent to the source -/
theorem C02_src_never_mutated (w : Wrap) (sc : Scenario) : ∀ c ∈ (run w sc).srcTrace, c.mutating = false := by
  intro c hc
  have := C02_src_trace w sc c hc
  cases c <;> simp_all [Cmd.readOnly, Cmd.mutating]

/-- **The same on the source text** (extracted on every run): every `send_command` site on the source
handle sends `SetRoot`, `GetEntries` or `GetFileContent`. -/
theorem C02_src_sites :
    ∀ s ∈ Generated.sites, s.handle = "src" → s.variant ∈ ["SetRoot", "GetEntries", "GetFileContent"] := by
  decide

/-- `CreateRootAncestors` — the one command that works outside the destination root — is never sent
in a dry run (that it goes to the destination only is `C02_src_trace`). -/
theorem C02_ancestors_not_in_dry_run (w : Wrap) (sc : Scenario) (hd : sc.dryRun = true) :
    Cmd.createRootAncestors ∉ (run w sc).destTrace := by
  intro h
  exact (run_ok (PS := fun _ => True) (PD := fun c => c ≠ .createRootAncestors) w sc
    { sSetRoot := fun _ => trivial
      sGetEntries := fun _ _ => trivial
      sGetFile := fun _ _ => trivial
      dSetRoot := fun _ => by simp
      dGetEntries := fun _ _ => by simp
      dMarker := fun _ => by simp
      dMutating := fun h => by simp [hd] at h }).2 _ h rfl

/-- **A kept destination entry is never written through.**  If the confirmation pass ends without error
and the deletion of a destination entry that is *in the way of* a source entry (reason `incompatible`:
e.g. a symlink where the source has a folder) was skipped, then no copy remains planned at that path
or anywhere inside it — so nothing is created "inside" a kept symlink, i.e. outside the destination.
(This is the repair of finding C02-F7a; before it the copies stayed in the plan.) -/
theorem C02_kept_entry_blocks_copies (c c' : Conf) (del del' : OMap (Details × DelReason)) (cpy cpy' : OMap (Details × CopyReason))
    (h : confirmActions c del cpy = (none, c', del', cpy'))
    (p : String) (d : Details) (hp : del.get p = some (d, .incompatible)) (hs : del'.get p = none) :
    ∀ k ∈ cpy'.keys, ¬ (k = p ∨ isInside k p = true) := by
  unfold confirmActions at h
  generalize confirmDeletes c del.iter [] = r1 at h
  obtain ⟨_ | e, c1, rm⟩ := r1
  case some => simp at h
  simp only at h
  generalize confirmCopies c1 _ [] = r2 at h
  obtain ⟨_ | e, c2, rm2⟩ := r2
  case some => simp at h
  cases h
  -- the deletion at `p` was skipped: `p ∈ rm`
  have hrm : p ∈ rm := Classical.byContradiction fun hm => by
    rw [removeAll_get, if_neg hm, hp] at hs; cases hs
  -- so a copy at or inside `p` was blocked, and what is blocked is no longer planned
  intro k hk hbad
  obtain ⟨hk1, -⟩ := (mem_keys_removeAll _ _ k).mp hk
  obtain ⟨hkk, hnb⟩ := (mem_keys_removeAll _ _ k).mp hk1
  apply hnb
  simp only [blockedCopies, List.mem_filter, List.any_eq_true, Bool.or_eq_true, beq_iff_eq]
  exact ⟨hkk, p, ⟨hrm, by simp [hp]⟩, hbad⟩

def isDelete : Cmd → Bool
  | .deleteFile _ | .deleteFolder _ | .deleteSymlink .. => true
  | _ => false

theorem afterDeletes_dest (c : Ctx) (l : List (String × (Details × DelReason))) (x : XState) :
    ∀ cmd ∈ (x.afterDeletes c l).dest, cmd ∈ x.dest ∨ isDelete cmd = true := by
  intro cmd h
  refine (List.mem_append.mp h).imp_right fun h => ?_
  obtain ⟨⟨p, d, r⟩, -, rfl⟩ := List.mem_map.mp (Ctx.mem_real.mp h).2
  cases d <;> rfl

theorem filter_mutating_deletes (l : List (String × (Details × DelReason))) :
    ((l.map (fun it => deleteCmd it.1 it.2.1)).filter Cmd.mutating).length = l.length := by
  induction l with
  | nil => rfl
  | cons it rest ih => simp [deleteCmd_mutating, ih]

/-- **A failed deletion is followed by no creation.**  If the destination command that the doer
answers with an error is one of the deletions, then — whenever that answer becomes visible to the
non-blocking polls — the boss sends nothing but deletions and the phase marker after what it had
sent before the execution phase: no folder, link or file is created behind a deletion that failed
(in particular not "inside" a symlink that could not be removed).  This is the repair of finding
C02-F7b (barrier after the delete phase); before it the creations were already queued. -/
theorem C02_failed_delete_blocks_creations (sc : Scenario) (ctx : Ctx) (x : XState) (conf : Conf)
    (del : OMap (Details × DelReason)) (cpy : OMap (Details × CopyReason))
    (hdry : ctx.dryRun = false) (k : Nat) (hk : sc.errCmd = some k)
    (hge : (x.dest.filter Cmd.mutating).length ≤ k)
    (hlt : k < (x.dest.filter Cmd.mutating).length + del.iter.length) :
    ∀ c ∈ (execPhase sc ctx x conf del cpy).destTrace, c ∈ x.dest ∨ isDelete c = true ∨ c = .marker .copying := by
  unfold execPhase
  obtain ⟨l₁, l₂, e1, hl, h1, he⟩ := deleteLoop_spec ctx sc.errAtPoll del.iter x {}
  rw [h1]
  have hsub := afterDeletes_dest ctx l₁ x
  obtain ⟨rfl, rfl⟩ | ⟨rfl, -⟩ := he
  · -- every deletion was sent, the failing one among them: the barrier sees its answer
    rw [List.append_nil] at hl
    have hb : barrierFails sc ctx del ((x.afterDeletes ctx l₁).sendDest (.marker .copying)) = true := by
      -- mutating commands sent by now: those of `x` and one per deletion (the marker is none), so more than `k`
      have hne : del.iter.isEmpty = false := List.isEmpty_eq_false_iff.mpr (List.ne_nil_of_length_pos (by omega))
      simp only [barrierFails, hdry, hne, XState.failedSent, hk, XState.sendDest, XState.afterDeletes, XState.ext, Ctx.real_eq hdry, ← hl,
        Bool.not_false, Bool.true_and, Bool.false_eq_true, ↓reduceIte, List.filter_append, List.length_append,
        filter_mutating_deletes, decide_eq_true_eq]
      simp [Cmd.mutating]
      omega
    simp only [if_pos hb]
    intro c hc
    rcases List.mem_append.mp hc with hc | hc
    · exact (hsub c hc).imp_right .inl
    · exact .inr (.inr (List.mem_singleton.mp hc))
  · exact fun c hc => (hsub c hc).imp_right .inl

def exampleScenario : Scenario where
  srcRoot := "S"
  destRoot := "D"
  dryRun := false
  beh := ⟨.proceed, .proceed, .skip, .proceed, .proceed⟩
  filters := []
  srcReply := .details (some .folder) false '/'
  destReply := .details (some .folder) false '/'
  destReply2 := .other
  events := [.entry .src "f" (.file 5 1), .entry .dest "g" (.file 1 1), .endOf .src, .endOf .dest]
  answers := []
  files := [("f", [([7], false)])]
  errAtPoll := none

/-- Non-vacuity: a run that copies a file and deletes another one; the source sees three commands. -/
example :
    ((run ⟨"^(?:", ")$"⟩ exampleScenario).srcTrace, (run ⟨"^(?:", ")$"⟩ exampleScenario).outcome) =
      ([.setRoot "S", .getEntries [], .getFileContent "f"], .ok) := by
  decide

/-! ### the doer's side, over the file-system model -/

/-- **What one executed command may change** (the doer model, any state, any command): nothing; or only
paths below the root, by a mutating command (exactly the one path `root ++ relative path` it names: `execCmd_effect`);
or — `CreateRootAncestors` — missing prefixes of
the root's parent become folders.  In particular read-only commands change nothing, and no command
changes a path outside the root other than by creating the root's missing ancestors — provided the
outcome is `ok` (the model's `escape` = the kernel would follow a link inside the tree). -/
theorem C02_exec_confined (k : ChunkCfg) (keepOf : List FilterSpec → String → Bool) (st st' : DoerSt) (c : Cmd)
    (out : List Resp) (h : execCmd k keepOf st c = .ok st' out) (q : FPath) (hq : st'.fs.get q ≠ st.fs.get q) :
    (∃ root sl, st.root = some (root, sl) ∧ root <+: q ∧ c.mutating = true) ∨
    (∃ root sl, st.root = some (root, sl) ∧ c = .createRootAncestors ∧ q <+: root.dropLast ∧
      st.fs.get q = none ∧ st'.fs.get q = some .folder) := by
  rcases execCmd_effect k keepOf st st' c out h with e | ⟨p, full, -, hf, hm, hc⟩ | ⟨root, sl, hr, hcmd, hall⟩
  · rw [e] at hq; exact absurd rfl hq
  · left
    obtain ⟨root, sl, hr, hpre⟩ := fullOf_prefix hf
    refine ⟨root, sl, hr, ?_, hm⟩
    by_cases hqf : q = full
    · subst hqf; exact hpre
    · exact absurd (hc q hqf) hq
  · right
    rcases hall q with e | ⟨h1, h2, h3⟩
    · exact absurd e hq
    · exact ⟨root, sl, hr, hcmd, h3, h1, h2⟩

/-- read-only commands (everything the source doer is ever sent, C02_src_trace) leave the file system as it is -/
theorem C02_readonly_exec (k : ChunkCfg) (keepOf : List FilterSpec → String → Bool) (st st' : DoerSt) (c : Cmd)
    (out : List Resp) (hc : c.readOnly = true) (h : execCmd k keepOf st c = .ok st' out) : st'.fs = st.fs := by
  rcases execCmd_effect k keepOf st st' c out h with e | ⟨p, full, -, -, hm, -⟩ | ⟨_, _, _, hcmd, _⟩
  · exact e
  · cases c <;> simp_all [Cmd.readOnly, Cmd.mutating]
  · subst hcmd; simp [Cmd.readOnly] at hc

/-- **A whole sync stays inside the destination and never follows a link**: the destination half of a
sync on the file-system model (every destination tree below the root, every source tree) ends `ok` —
no call fails and none passes through a symlink — and every path that does not lie below the doer's
root is as it was — with any filters (`vis`: which relative paths they let through), and then also
every path the filters hide. -/
theorem C02_sync_confined {vis : FPath → Bool} {fs0 : FS} {r : FPath} {ld : List (FPath × Node)} {src : FPath → Option SEntry}
    {ls : List (FPath × SEntry)} (hw : DestWF vis fs0 r ld) (hs : SrcWF vis src ls)
    (hsafe : ∀ p c n, (p, Node.folder) ∈ planDel src ld → fs0.get (r ++ (p ++ [c])) = some n → vis (p ++ [c]) = true) :
    ∃ fs', syncDest fs0 r src ls ld = .ok fs' ∧ (∀ q, ¬ r <+: q → fs'.get q = fs0.get q) ∧
      ∀ p, vis p = false → fs'.get (r ++ p) = fs0.get (r ++ p) := by
  obtain ⟨fs', h1, h2, -, -, h5⟩ := sync_mirror hw hs hsafe
  exact ⟨fs', h1, h2, h5⟩

/-- **No run follows a link — successful or failing, with any filters**: for every destination tree, every source tree
and every filter verdict (both listings holding exactly what the filters let through), the destination half of a sync
ends `ok` or with an `err`or, never with `escape` (the outcome the file-system model gives whenever the kernel would pass
through a symlink inside the tree).  No assumption about hidden entries: where `C01_mirror_filtered` needs `hsafe` to
conclude success, this holds without it. -/
theorem C02_sync_never_escapes {vis : FPath → Bool} {fs0 : FS} {r : FPath} {ld : List (FPath × Node)} {src : FPath → Option SEntry}
    {ls : List (FPath × SEntry)} (hw : DestWF vis fs0 r ld) (hs : SrcWF vis src ls) :
    syncDest fs0 r src ls ld ≠ .escape :=
  syncDest_ne_escape hw hs

/-- … stated on two trees with the model's own (filtered) listings: nothing is assumed but the shape of the trees -/
theorem C02_never_escapes_two_trees (keep : FPath → Bool) (S D : FS) (rs rd : FPath) (fS fD : Nat)
    (hS : SrcTreeOk S rs fS) (hD : D.Wf)
    (hroot : D.get rd = some .folder) (hanc : ∀ k, k < rd.length → D.get (rd.take k) = some .folder)
    (hclosed : ∀ p, p ≠ [] → D.get (rd ++ p) ≠ none → D.get (rd ++ p.dropLast) = some .folder)
    (hfuel : ∀ p, D.get (rd ++ p) ≠ none → p.length ≤ fD) :
    syncDest D rd (srcOfFS S rs) (lsOfFSF keep S rs fS)
      ((listNodesF keep rd D fD rd).map fun e => (e.1.drop rd.length, e.2)) ≠ .escape :=
  C02_sync_never_escapes (destWF_of_listNodesF keep D hD rd hroot hanc hclosed fD hfuel) (srcWF_of_treeF keep S rs fS hS)

end Rj.C02
