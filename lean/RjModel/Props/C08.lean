import RjModel.Lemmas.SyncLemmas
import RjModel.Lemmas.CrashLemmas
import RjModel.Lemmas.WalkOrderLemmas
import RjModel.Model.FileRecv
import RjModel.Generated.ConfirmShape
import RjModel.Model.ConfirmShape
/-! # C08 — an interrupted or failed sync can always be repaired by running it again
(the doer never leaves a file that carries the source's modification time but different bytes) -/
namespace Rj.C08

/-- a state of the destination file that a later run cannot mistake for up to date:
untouched, or carrying a fresh (non-source) time stamp, or complete with the source's stamp -/
def GoodFile (pre : Option FileSt) (full : List UInt8) (fin : Bool) (f : Option FileSt) : Prop :=
  f = pre ∨ (∃ b k, f = some ⟨b, .fresh k⟩) ∨ (fin = true ∧ f = some ⟨full, .src⟩)

/-- where the doer's bookkeeping stands between two chunks of a transfer of which `d` has been sent -/
inductive Mid (pre : Option FileSt) (d : List Chunk) : RS → Prop
  | notStarted (k : Nat) : d = [] → Mid pre d ⟨pre, false, false, k⟩
  | open_ (k k' : Nat) : d ≠ [] → Mid pre d ⟨some ⟨fullBytes d, .fresh k'⟩, true, false, k⟩
  | failedUntouched (k : Nat) : Mid pre d ⟨pre, false, true, k⟩
  | failedFresh (b : List UInt8) (k k' : Nat) : Mid pre d ⟨some ⟨b, .fresh k'⟩, false, true, k⟩

theorem fullBytes_snoc (d : List Chunk) (c : Chunk) : fullBytes (d ++ [c]) = fullBytes d ++ c.data := by
  simp [fullBytes]

section
variable {pre : Option FileSt} {full : List UInt8} {fin : Bool}

theorem GoodFile.same : GoodFile pre full fin pre := .inl rfl

theorem GoodFile.fresh (b : List UInt8) (k : Nat) : GoodFile pre full fin (some ⟨b, .fresh k⟩) := .inr (.inl ⟨b, k, rfl⟩)

theorem GoodFile.done : GoodFile pre full true (some ⟨full, .src⟩) := .inr (.inr ⟨rfl, rfl⟩)

theorem GoodFile.weaken {b : List UInt8} {f : Option FileSt} (h : GoodFile pre full false f) : GoodFile pre b true f := by
  rcases h with h | h | ⟨h, _⟩
  · exact .inl h
  · exact .inr (.inl h)
  · cases h

end

/-- a left-over part of a failed transfer is rejected: the file is not touched -/
theorem chunkStates_failed (file : Option FileSt) (h : Bool) (k : Nat) (c : Chunk) (f : Fault) :
    chunkStates true ⟨file, h, true, k⟩ c f = [⟨file, h, c.more, k⟩] := by
  simp [chunkStates]

/-- One chunk (the repaired doer): whatever the fault, every state passed through is good, and —
if more chunks follow — the bookkeeping is again in one of the `Mid` positions. -/
theorem chunk_good (pre : Option FileSt) (d : List Chunk) (c : Chunk) (f : Fault) (s : RS) (h : Mid pre d s) :
    (∀ t ∈ chunkStates true s c f, GoodFile pre (fullBytes (d ++ [c])) (!c.more) t.file) ∧
    (c.more = true → Mid pre (d ++ [c]) (lastState s (chunkStates true s c f))) := by
  obtain ⟨data, more⟩ := c
  -- the open handle after a fault-free part that is not the last
  have hopen : ∀ k k', Mid pre (d ++ [⟨data, true⟩]) ⟨some ⟨fullBytes d ++ data, .fresh k'⟩, true, false, k⟩ :=
    fun k k' => fullBytes_snoc d ⟨data, true⟩ ▸ Mid.open_ k k' (by simp)
  cases h with
  | failedUntouched k =>
    rw [chunkStates_failed]
    exact ⟨by simp [GoodFile.same], fun hm => by subst hm; exact .failedUntouched _⟩
  | failedFresh b k k' =>
    rw [chunkStates_failed]
    exact ⟨by simp [GoodFile.fresh], fun hm => by subst hm; exact .failedFresh _ _ _⟩
  -- otherwise by fault and position: `simp` computes the states; each is untouched, freshly stamped, or the stamped last
  -- state of a fault-free last part, and after a fault-free earlier part the handle is open
  | notStarted k hd =>
    subst hd
    cases f <;> cases more <;>
      simp [chunkStates, lastState, GoodFile.same, GoodFile.fresh, GoodFile.done, fullBytes, Mid.failedUntouched, Mid.failedFresh] <;>
      simpa [fullBytes] using hopen _ _
  | open_ k k' hd =>
    cases f <;> cases more <;>
      simp [chunkStates, lastState, GoodFile.fresh, GoodFile.done, fullBytes_snoc, Mid.failedFresh, hopen]

theorem wellFormed_cons (c : Chunk) (r : List Chunk) (h : wellFormed (c :: r) = true) :
    (r = [] ∧ c.more = false) ∨ (r ≠ [] ∧ c.more = true ∧ wellFormed r = true) := by
  cases r with
  | nil => left; simpa [wellFormed] using h
  | cons c2 r2 => right; simp [wellFormed] at h; exact ⟨by simp, h.1, by simpa [wellFormed] using h.2⟩

theorem transfer_good (pre : Option FileSt) (r : List Chunk) : ∀ (d : List Chunk) (s : RS) (fs : List Fault),
    Mid pre d s → wellFormed r = true →
    ∀ t ∈ transferStates true s (r.zip fs), GoodFile pre (fullBytes (d ++ r)) true t.file := by
  induction r with
  | nil => intro d s fs _ hw; simp [wellFormed] at hw
  | cons c r' ih =>
    intro d s fs hm hw t ht
    cases fs with
    | nil => simp [transferStates] at ht
    | cons f fs' =>
      simp only [List.zip_cons_cons, transferStates, List.mem_append] at ht
      obtain ⟨hg, hmid⟩ := chunk_good pre d c f s hm
      rcases wellFormed_cons c r' hw with ⟨rfl, hmore⟩ | ⟨hr, hmore, hw'⟩
      · rcases ht with ht | ht
        · simpa [hmore] using hg t ht
        · simp [transferStates] at ht
      · rcases ht with ht | ht
        · exact (hmore ▸ hg t ht).weaken
        · simpa using ih (d ++ [c]) _ fs' (hmid hmore) hw' t ht

/-- **No stamped garbage**: for every previous state of the destination file (absent or any
content), every chunking of the transfer, every fault (create, write after any number of bytes,
set-time) at every chunk *while the remaining chunks are already queued and still arrive*, and every
crash point (any of the intermediate states), the destination file is untouched, or carries a fresh
time stamp, or holds exactly the source's bytes with the source's time stamp. -/
theorem C08_no_stamped_garbage (pre : Option FileSt) (cs : List Chunk) (hw : wellFormed cs = true)
    (fs : List Fault) (k : Nat) :
    ∀ t ∈ transferStates true ⟨pre, false, false, k⟩ (cs.zip fs), GoodFile pre (fullBytes cs) true t.file := by
  simpa using transfer_good pre cs [] ⟨pre, false, false, k⟩ fs (Mid.notStarted k rfl) hw

/-- In particular a file stamped with the source's time holds the source's bytes. -/
theorem C08_stamped_means_complete (pre : Option FileSt) (hpre : ∀ b, pre ≠ some ⟨b, .src⟩) (cs : List Chunk)
    (hw : wellFormed cs = true) (fs : List Fault) (k : Nat) (t : RS) (b : List UInt8)
    (ht : t ∈ transferStates true ⟨pre, false, false, k⟩ (cs.zip fs)) (hs : t.file = some ⟨b, .src⟩) :
    b = fullBytes cs := by
  rcases C08_no_stamped_garbage pre cs hw fs k t ht with h | ⟨b', k', h⟩ | ⟨_, h⟩
  · rw [hs] at h; exact absurd h.symm (hpre b)
  · rw [hs] at h; cases h
  · rw [hs] at h; cases h; rfl

/-- The code before the repair: chunks 1..3 of a file, the write of chunk 2 fails, chunk 3 is already
queued: it arrives with no open handle, is taken for the start of a new transfer, re-creates the
file and stamps it — the destination is the last chunk only, with the source's time. -/
theorem C08_requeued_chunk_witness :
    let cs : List Chunk := [⟨[1, 2], true⟩, ⟨[3, 4], true⟩, ⟨[5], false⟩]
    (lastState ⟨none, false, false, 0⟩
      (transferStates false ⟨none, false, false, 0⟩ (cs.zip [.none, .write 0, .none]))).file = some ⟨[5], .src⟩ ∧
    fullBytes cs = [1, 2, 3, 4, 5] := by
  decide

/-- Non-vacuity: the same history through the repaired doer leaves a freshly stamped partial file,
and a fault-free transfer leaves the complete file with the source's stamp. -/
example :
    let cs : List Chunk := [⟨[1, 2], true⟩, ⟨[3, 4], true⟩, ⟨[5], false⟩]
    (lastState ⟨none, false, false, 0⟩
      (transferStates true ⟨none, false, false, 0⟩ (cs.zip [.none, .write 1, .none]))).file = some ⟨[1, 2, 3], .fresh 2⟩ ∧
    (lastState ⟨none, false, false, 0⟩
      (transferStates true ⟨some ⟨[9, 9, 9, 9, 9, 9, 9], .old⟩, false, false, 0⟩ (cs.zip [.none, .none, .none]))).file
        = some ⟨[1, 2, 3, 4, 5], .src⟩ := by
  decide

/-- **Recovery, on the file-system model.**  Whatever state an interrupted or failed run left behind —
any tree-closed destination: files cut short, left-over entries, missing folders — running the sync
again (overwriting permitted) ends `ok` in the mirror state; and a destination file whose time stamp is
**not** the source's (which `C08_no_stamped_garbage` shows for every incomplete file) ends up holding
exactly the source's bytes and time. -/
theorem C08_recovery_fs {fs0 : FS} {r : FPath} {ld : List (FPath × Node)} {src : FPath → Option SEntry}
    {ls : List (FPath × SEntry)} {vis : FPath → Bool} (hw : DestWF vis fs0 r ld) (hs : SrcWF vis src ls)
    (hsafe : ∀ p c n, (p, Node.folder) ∈ planDel src ld → fs0.get (r ++ (p ++ [c])) = some n → vis (p ++ [c]) = true) :
    ∃ fs', syncDest fs0 r src ls ld = .ok fs' ∧
      (∀ p, p ≠ [] → vis p = true → MirrorAt fs0 fs' r p (src p)) ∧
      ∀ p b m, p ≠ [] → vis p = true → src p = some (.file b m) →
        (∀ b', fs0.get (r ++ p) ≠ some (.file b' (.at m))) → fs'.get (r ++ p) = some (.file b (.at m)) := by
  obtain ⟨fs', h1, -, -, hm, -⟩ := sync_mirror hw hs hsafe
  refine ⟨fs', h1, hm, ?_⟩
  intro p b m hp hv hsrc hne
  rcases hsrc ▸ hm p hp hv with h | ⟨b', h, -⟩
  · exact h
  · exact absurd h (hne b')

/-! ### every crash point (entry granularity) -/

/-- what a second run achieves from a destination state `fsk`, given any listing of it that is complete for what the
filters let through (`vis`) and parents-first -/
def Repairs (vis : FPath → Bool) (fs0 fsk : FS) (r : FPath) (src : FPath → Option SEntry) (ls : List (FPath × SEntry)) : Prop :=
  ∀ ld' : List (FPath × Node),
    (∀ p n, (p, n) ∈ ld' ↔ (p ≠ [] ∧ vis p = true ∧ fsk.get (r ++ p) = some n)) → ld'.Pairwise (fun a b => ¬ b.1 <+: a.1) →
    ∃ fs', syncDest fsk r src ls ld' = .ok fs' ∧
      (∀ q, ¬ r <+: q → fs'.get q = fs0.get q) ∧
      (∀ p, p ≠ [] → vis p = true → MirrorAt fsk fs' r p (src p)) ∧
      (∀ p, vis p = false → fs'.get (r ++ p) = fsk.get (r ++ p))

theorem repairs_of_closed {vis : FPath → Bool} {fs0 fsk : FS} {r : FPath} {src : FPath → Option SEntry} {ls : List (FPath × SEntry)}
    (hs : SrcWF vis src ls)
    (hroot : fsk.get r = some .folder) (hanc : ∀ k, k < r.length → fsk.get (r.take k) = some .folder)
    (hclosed : ∀ p, p ≠ [] → fsk.get (r ++ p) ≠ none → fsk.get (r ++ p.dropLast) = some .folder)
    (hout : ∀ q, ¬ r <+: q → fsk.get q = fs0.get q)
    (hsafe' : ∀ p c n, p ≠ [] → vis p = true → fsk.get (r ++ p) = some Node.folder → src p ≠ some .folder →
      fsk.get (r ++ (p ++ [c])) = some n → vis (p ++ [c]) = true) : Repairs vis fs0 fsk r src ls := by
  intro ld' hl hpf
  have hw' : DestWF vis fsk r ld' := ⟨hroot, hanc, hclosed, hl, hpf⟩
  have hsafe'' : ∀ p c n, (p, Node.folder) ∈ planDel src ld' → fsk.get (r ++ (p ++ [c])) = some n → vis (p ++ [c]) = true := by
    intro p c n hmem hc
    obtain ⟨h1, h2⟩ := mem_planDel.mp hmem
    obtain ⟨hne, hv, hg⟩ := (hl p .folder).mp h1
    exact hsafe' p c n hne hv hg (needDel_folder.mp h2) hc
  obtain ⟨fs', h1, h2, -, h4, h5⟩ := sync_mirror hw' hs hsafe''
  exact ⟨fs', h1, fun q hq => by rw [h2 q hq, hout q hq], h4, h5⟩

section
variable {vis : FPath → Bool} {fs0 : FS} {r : FPath} {ld : List (FPath × Node)} {src : FPath → Option SEntry}
  {ls : List (FPath × SEntry)}

/-- a crash in the delete phase: the calls made so far succeeded, and left a tree that a second run repairs -/
theorem crash_in_dels (hw : DestWF vis fs0 r ld) (hs : SrcWF vis src ls)
    (hsafe : ∀ p c n, (p, Node.folder) ∈ planDel src ld → fs0.get (r ++ (p ++ [c])) = some n → vis (p ++ [c]) = true)
    (done rest : List (FPath × Node)) (hsplit : planDel src ld = done ++ rest) :
    ∃ fsk, runOps (fun f x => delOp f r x) fs0 done = .ok fsk ∧ TreeBelow fsk r ∧ Repairs vis fs0 fsk r src ls := by
  obtain ⟨fsk, hrun, hin, hout⟩ := run_dels_gen hw hs hsafe done rest [] fs0 hsplit (fun _ => rfl) (fun _ _ => rfl)
  obtain ⟨hroot, hclosed⟩ := dels_prefix_closed hw hs hsafe done rest hsplit fsk hin
  have hanc := rootAnc_of_outside hout hw.rootAnc
  refine ⟨fsk, hrun, ⟨hroot, hanc, hclosed⟩, repairs_of_closed hs hroot hanc hclosed hout ?_⟩
  -- a visible folder of the crash state that must go was already one that must go, with the same contents
  intro p c n hpne hv hg hsrc hc
  rw [hin] at hg hc
  split at hg
  · cases hg
  split at hc
  · cases hc
  exact hsafe p c n (mem_planDel.mpr ⟨(hw.listed _ _).mpr ⟨hpne, hv, hg⟩, needDel_folder.mpr hsrc⟩) hc

/-- a crash in the copy phase, likewise -/
theorem crash_in_cpys (hw : DestWF vis fs0 r ld) (hs : SrcWF vis src ls)
    (hsafe : ∀ p c n, (p, Node.folder) ∈ planDel src ld → fs0.get (r ++ (p ++ [c])) = some n → vis (p ++ [c]) = true)
    (done rest : List (FPath × SEntry)) (hsplit : planCpy (fun p => fs0.get (r ++ p)) ls = done ++ rest) :
    ∃ fs1 fsk, runOps (fun f x => delOp f r x) fs0 (planDel src ld) = .ok fs1 ∧
      runOps (fun f x => cpyOp f r x) fs1 done = .ok fsk ∧ TreeBelow fsk r ∧ Repairs vis fs0 fsk r src ls := by
  obtain ⟨fs1, hd, hd1, hd2⟩ := run_dels hw hs hsafe (planDel src ld) [] fs0 rfl (fun _ => rfl) (fun _ _ => rfl)
  obtain ⟨fsk, hrun, hin, hout⟩ := run_cpys_gen hw hs done rest [] fs1 hsplit hd1 hd2
  obtain ⟨hroot, hclosed⟩ := cpys_prefix_closed hw hs hsafe done rest hsplit fsk hin
  have hanc := rootAnc_of_outside hout hw.rootAnc
  refine ⟨fs1, fsk, hd, hrun, ⟨hroot, hanc, hclosed⟩, repairs_of_closed hs hroot hanc hclosed hout ?_⟩
  -- after the delete phase no visible folder is left that must go: a folder was written from a source folder, or stayed
  -- because the source holds one
  intro p c n hpne hv hg hsrc _
  refine absurd ?_ hsrc
  rw [hin] at hg
  split at hg
  · cases h2 : src p with
    | none => simp [h2] at hg
    | some e => cases e <;> simp [h2, written] at hg; rfl
  · rw [afterDels_vis hw hpne hv] at hg
    obtain ⟨-, h⟩ := Option.filter_eq_some_iff.mp hg
    exact Classical.not_not.mp (mt needDel_folder.mpr (by simpa using h))

end

/-- **Recovery from a crash anywhere in the delete phase** (with any filters): after *any* prefix `done` of the planned
deletions — the state a crash or a lost link leaves behind (after a *failing* call the real doer goes on with what is
queued: such states are not prefixes, `C08_recovery_fs` covers them as tree-closed states) — the calls made so far all succeeded, and
from the state they left a second run (on any listing of that state that is complete for what the filters let through and
parents-first) ends `ok`, mirrors the source at every visible path, leaves every hidden path as it is and changes nothing
outside the root. -/
theorem C08_recovery_from_crash_in_delete_phase {vis : FPath → Bool} {fs0 : FS} {r : FPath} {ld : List (FPath × Node)}
    {src : FPath → Option SEntry} {ls : List (FPath × SEntry)} (hw : DestWF vis fs0 r ld) (hs : SrcWF vis src ls)
    (hsafe : ∀ p c n, (p, Node.folder) ∈ planDel src ld → fs0.get (r ++ (p ++ [c])) = some n → vis (p ++ [c]) = true)
    (done rest : List (FPath × Node)) (hsplit : planDel src ld = done ++ rest) :
    ∃ fsk, runOps (fun f x => delOp f r x) fs0 done = .ok fsk ∧ Repairs vis fs0 fsk r src ls := by
  obtain ⟨fsk, hrun, -, hrep⟩ := crash_in_dels hw hs hsafe done rest hsplit
  exact ⟨fsk, hrun, hrep⟩

/-- **Recovery from a crash anywhere in the copy phase** (with any filters): after all deletions and *any* prefix `done` of
the planned creations, the same. -/
theorem C08_recovery_from_crash_in_copy_phase {vis : FPath → Bool} {fs0 : FS} {r : FPath} {ld : List (FPath × Node)}
    {src : FPath → Option SEntry} {ls : List (FPath × SEntry)} (hw : DestWF vis fs0 r ld) (hs : SrcWF vis src ls)
    (hsafe : ∀ p c n, (p, Node.folder) ∈ planDel src ld → fs0.get (r ++ (p ++ [c])) = some n → vis (p ++ [c]) = true)
    (done rest : List (FPath × SEntry)) (hsplit : planCpy (fun p => fs0.get (r ++ p)) ls = done ++ rest) :
    ∃ fs1 fsk, runOps (fun f x => delOp f r x) fs0 (planDel src ld) = .ok fs1 ∧
      runOps (fun f x => cpyOp f r x) fs1 done = .ok fsk ∧ Repairs vis fs0 fsk r src ls := by
  obtain ⟨fs1, fsk, hd, hrun, -, hrep⟩ := crash_in_cpys hw hs hsafe done rest hsplit
  exact ⟨fs1, fsk, hd, hrun, hrep⟩

/-- **… and no listing has to be assumed for the second run**: a destination that is a well-formed file-system value
(one entry per path) is, after a crash anywhere in the delete phase or anywhere in the copy phase, again one; its own listing
in the order of the real walk (`listBelow`) is complete and parents-first (`C17_walk_order_listing`); so running the sync
again *on the crash state's own listing* ends `ok` in the mirror of the source. -/
theorem C08_rerun_after_any_crash_own_listing {fs0 : FS} (hwf : fs0.Wf) {r : FPath} {ld : List (FPath × Node)}
    {src : FPath → Option SEntry} {ls : List (FPath × SEntry)}
    (hw : DestWF (fun _ => true) fs0 r ld) (hs : SrcWF (fun _ => true) src ls) :
    (∀ done rest, planDel src ld = done ++ rest →
      ∃ fsk, runOps (fun f x => delOp f r x) fs0 done = .ok fsk ∧
        ∃ fs', syncDest fsk r src ls (listBelow fsk r) = .ok fs' ∧ ∀ p, p ≠ [] → MirrorAt fsk fs' r p (src p)) ∧
    (∀ done rest, planCpy (fun p => fs0.get (r ++ p)) ls = done ++ rest →
      ∃ fs1 fsk, runOps (fun f x => delOp f r x) fs0 (planDel src ld) = .ok fs1 ∧
        runOps (fun f x => cpyOp f r x) fs1 done = .ok fsk ∧
        ∃ fs', syncDest fsk r src ls (listBelow fsk r) = .ok fs' ∧ ∀ p, p ≠ [] → MirrorAt fsk fs' r p (src p)) := by
  -- from a repairable, well-formed crash state: run on its own listing
  have own : ∀ fsk, fsk.Wf → TreeBelow fsk r → Repairs (fun _ => true) fs0 fsk r src ls →
      ∃ fs', syncDest fsk r src ls (listBelow fsk r) = .ok fs' ∧ ∀ p, p ≠ [] → MirrorAt fsk fs' r p (src p) := by
    intro fsk hk htree hrep
    have hl := destWF_of_listBelow fsk hk r htree
    obtain ⟨fs', g1, -, g3, -⟩ := hrep (listBelow fsk r) hl.listed hl.parentFirst
    exact ⟨fs', g1, fun p hp => g3 p hp rfl⟩
  constructor
  · intro done rest hsplit
    obtain ⟨fsk, hrun, htree, hrep⟩ := crash_in_dels hw hs (fun _ _ _ _ _ => rfl) done rest hsplit
    exact ⟨fsk, hrun, own fsk (Wf_runDels done fs0 fsk hwf hrun) htree hrep⟩
  · intro done rest hsplit
    obtain ⟨fs1, fsk, hd, hrun, htree, hrep⟩ := crash_in_cpys hw hs (fun _ _ _ _ _ => rfl) done rest hsplit
    exact ⟨fs1, fsk, hd, hrun, own fsk (Wf_runCpys done fs1 fsk (Wf_runDels _ fs0 fs1 hwf hd) hrun) htree hrep⟩

/-- **`copy_file` (the relay of a file's parts: first part creates, the last one carries the time, the size check at the
end) still has the shape the model was written against** - a pin like `C03_confirm_actions_shape`: the normalised text
extracted on every run equals the copy kept in `Model/ConfirmShape.lean`. -/
theorem C08_copy_file_shape : Generated.copyFileShape = copyFileShapeRef := by rfl

/-- **The doer's `exec_command` still has the shape the doer model was written against** (a pin: the normalised text of the
function in doer.rs, extracted on every run, equals the copy in `Model/ConfirmShape.lean`).  The doer model is tied to the
real doer by the L3 / `fsx` streams; this makes every edit of the function visible, also where the streams do not reach. -/
theorem C08_exec_command_shape : Generated.execCommandShape = execCommandShapeRef := by rfl

end Rj.C08
