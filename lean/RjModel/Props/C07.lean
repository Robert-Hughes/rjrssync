import RjModel.Lemmas.SyncLemmas
import RjModel.Model.Doer
import RjModel.Lemmas.BossTraces
import RjModel.Lemmas.RunLemmas
import RjModel.Generated.RunSkel
/-! # C07 — exit status 0 means everything was applied; every failure is reported -/
namespace Rj.C07

/-- **Every destination failure is reported, however late it becomes visible**: for every scenario
and every poll index at which the destination doer's `Error` response is first seen (including
"after the last poll": the final blocking wait), the run does not end `ok` — unless it sent the destination
nothing that mutates, `CreateRootAncestors` apart (the root-deletion gate answered `skip`). -/
theorem C07_failure_reported (w : Wrap) (sc : Scenario) (j : Nat) (h : sc.errAtPoll = some j)
    (hok : (run w sc).outcome = .ok) : ∀ c ∈ (run w sc).destTrace, c.mutating = false ∨ c = .createRootAncestors :=
  (run_before w sc).2 (by simp [h]) hok

/-- the execution phase with a visible destination error never ends `ok`, whichever poll sees it -/
theorem C07_exec_never_ok (sc : Scenario) (ctx : Ctx) (x : XState) (conf : Conf)
    (del : OMap (Details × DelReason)) (cpy : OMap (Details × CopyReason)) (j : Nat) (h : sc.errAtPoll = some j) :
    (execPhase sc ctx x conf del cpy).outcome ≠ .ok :=
  (execPhase_outcome sc ctx x conf del cpy).2.1 (by simp [h])

/-- **A source that answers `GetFileContent` with anything but content fails the copy of that file** (the scripted stream is
empty: a failing read or an unexpected reply; a changed length is `C11_copy_file_ok`: success ⇒ terminated stream totalling
the listed size). -/
theorem C07_source_failure_reported (c : Ctx) (hd : c.dryRun = false) (errAt : Option Nat) (files : List (String × FileScript))
    (p : String) (mtime : Int) (size : Nat) (x : XState) (st : Stats) (h : fileScript files p = []) :
    (copyOne c errAt files p (.file mtime size) x st).1 = some .unexpected := by
  simp [copyOne, hd, copyFileReal, h, chunkLoop]

/-- **Summary = what was sent** (deletions): the three deletion counters add up to the number of
delete commands the real run sent. -/
theorem C07_summary_deletes (c : Ctx) (hd : c.dryRun = false) (l : List (String × (Details × DelReason))) (x : XState)
    (st : Stats) :
    let r := deleteLoop c none l x st
    r.2.2.filesDel + r.2.2.foldersDel + r.2.2.linksDel = st.filesDel + st.foldersDel + st.linksDel + l.length ∧
    r.2.1.dest.length = x.dest.length + l.length := by
  simp only [deleteLoop_none]
  refine ⟨?_, by simp [XState.afterDeletes, XState.ext, Ctx.real_eq hd]⟩
  unfold Stats.afterDeletes
  induction l generalizing st with
  | nil => rfl
  | cons it rest ih =>
    rw [List.foldl_cons, ih]
    obtain ⟨p, d, r⟩ := it
    cases d <;> simp [Stats.addDelete] <;> omega

/-- with all six counters zero the summary is exactly "Nothing to do!"; otherwise it has one line
per non-empty group (deletions, copies) and no "Nothing to do!" line is appended -/
theorem C07_nothing_to_do (dry : Bool) (st : Stats) :
    (st.filesDel + st.foldersDel + st.linksDel + st.filesCopied + st.foldersCreated + st.linksCopied = 0 →
      summary dry st = ["Nothing to do!"]) ∧
    (st.filesDel + st.foldersDel + st.linksDel + st.filesCopied + st.foldersCreated + st.linksCopied ≠ 0 →
      (summary dry st).length = (if st.filesDel + st.foldersDel + st.linksDel > 0 then 1 else 0) +
                                 (if st.filesCopied + st.foldersCreated + st.linksCopied > 0 then 1 else 0)) := by
  unfold summary
  constructor
  · intro h
    have h1 : ¬ (st.filesDel + st.foldersDel + st.linksDel > 0) := by omega
    have h2 : ¬ (st.filesCopied + st.foldersCreated + st.linksCopied > 0) := by omega
    simp [h, h1, h2]
  · intro h
    simp only [h, ↓reduceIte, List.append_nil, List.length_append]
    congr 1 <;> split <;> rfl

/-- Non-vacuity: an error reply that becomes visible at poll 1 of a 2-deletion plan ends the run
with `err doer` after the second delete command. -/
example :
    let sc : Scenario :=
      { srcRoot := "S", destRoot := "D", dryRun := false, beh := ⟨.proceed, .proceed, .skip, .proceed, .proceed⟩, filters := [],
        srcReply := .details (some .folder) false '/', destReply := .details (some .folder) false '/', destReply2 := .other,
        events := [.entry .dest "g" (.file 1 1), .entry .dest "h" (.file 1 1), .endOf .src, .endOf .dest],
        answers := [], files := [], errAtPoll := some 1 }
    (run ⟨"^(?:", ")$"⟩ sc).outcome = .err .doer ∧
    (run ⟨"^(?:", ")$"⟩ sc).destTrace = [.setRoot "D", .getEntries [], .deleteFile "h", .deleteFile "g"] := by
  decide

/-- **A folder that still holds anything cannot be removed** (on the file-system model): whatever the
entry beneath it is — in particular one that the filters hide, which the boss therefore never planned
to delete — `remove_dir` fails, so the deletion of that folder is answered with an error … -/
theorem C07_nonempty_folder_fails (fs : FS) (P : FPath) (c : Comp) (n : Node) (h : fs.get (P ++ [c]) = some n) (fs' : FS) :
    fs.rmdir P ≠ .ok fs' := by
  intro hr
  have := (rmdir_ok_eq hr).2.1
  rw [hasChild_iff.mpr ⟨c, n, h⟩] at this
  cases this

/-- … **and a failing file-system call is reported**: `reply`, through which the doer model answers `DeleteFolder`, `DeleteFile`,
`DeleteSymlink`, `CreateFolder` and `CreateSymlink` (`C01_exec_bridge`, for a root not spelled with a trailing slash), turns a
failed call into exactly one `Error` response and leaves the file system unchanged (never a silent failure). -/
theorem C07_failed_call_is_reported (st : DoerSt) (r : OpR FS) (c : ErrClass) (hr : r = .err) :
    reply st r c = .ok st [.error c] := by
  subst hr; rfl

/-- a successful call is answered with nothing (errors are the only answers to mutating commands) -/
theorem C07_ok_call_is_silent (st : DoerSt) (fs' : FS) (c : ErrClass) :
    reply st (.ok fs') c = .ok { st with fs := fs' } [] := rfl

/-- **… so a sync that has to remove a folder holding a hidden entry ends in an error** (on the file-system model,
for every tree pair and filter verdict): if the plan deletes the destination folder `p` while an entry directly beneath it
is hidden by the filters — no deletion names it — the destination half of the sync ends `err`: not `ok` (the failure is
not lost), not `escape` (no link is followed on the way). -/
theorem C07_hidden_entry_fails_fs {vis : FPath → Bool} {fs0 : FS} {r : FPath} {ld : List (FPath × Node)}
    {src : FPath → Option SEntry} {ls : List (FPath × SEntry)} (hw : DestWF vis fs0 r ld) (hs : SrcWF vis src ls)
    (p : FPath) (c : Comp) (n : Node) (hdel : (p, Node.folder) ∈ planDel src ld)
    (hchild : fs0.get (r ++ (p ++ [c])) = some n) (hhidden : vis (p ++ [c]) = false) :
    syncDest fs0 r src ls ld = .err := by
  rcases sync_outcome hw hs with ⟨hno, -⟩ | ⟨-, herr⟩
  · exact absurd ⟨rfl, c, n, hchild, hhidden⟩ (hno _ hdel)
  · exact herr

open Rj.Run in
/-- the control skeleton of `execute_spec` in the source (re-extracted on every run: the exit code of each failure path,
which comms each path shuts down, whether the per-sync error arm returns at once, the function's final value; and that the
function has no other exit and keeps no status in a variable) is the one the theorems below are proved for -/
theorem C07_run_skeleton_matches : Generated.runSkelRecognised = true ∧ Generated.runSkel = RunSkel.ref := by decide

open Rj.Run in
/-- **Exit status 0 iff everything succeeded**: both doers were set up and every sync of the spec ended `Ok` - for any
number of syncs and any pattern of failures, on the skeleton of the current source.  In particular a failing sync makes
the run end non-zero however many later syncs would have succeeded (with `C07_failure_reported`: a failing operation
makes its sync end `Err`). -/
theorem C07_exit_zero_iff_all_ok (srcOk destOk : Bool) (outs : List Bool) :
    (executeSpec Generated.runSkel srcOk destOk outs).code = 0 ↔ (srcOk = true ∧ destOk = true ∧ outs.all id = true) := by
  rw [C07_run_skeleton_matches.2, executeSpec_ref]
  cases srcOk <;> cases destOk <;> cases outs.all id <;> simp

open Rj.Run in
/-- the documented codes: 10 the source doer could not be set up, 11 the destination doer, 12 a sync failed; nothing else -/
theorem C07_exit_codes (srcOk destOk : Bool) (outs : List Bool) :
    let r := executeSpec Generated.runSkel srcOk destOk outs
    (r.code = 10 ↔ srcOk = false) ∧ (r.code = 11 ↔ (srcOk = true ∧ destOk = false)) ∧
    (r.code = 12 ↔ (srcOk = true ∧ destOk = true ∧ outs.all id = false)) ∧ r.code ∈ [0, 10, 11, 12] := by
  rw [C07_run_skeleton_matches.2, executeSpec_ref]
  cases srcOk <;> cases destOk <;> cases outs.all id <;> simp

open Rj.Run in
/-- **Nothing runs after a failure**: the syncs started are exactly those up to and including the first failing one -/
theorem C07_syncs_run (outs : List Bool) :
    (executeSpec Generated.runSkel true true outs).syncsRun =
      if outs.all id then outs.length else (outs.takeWhile id).length + 1 := by
  rw [C07_run_skeleton_matches.2, executeSpec_ref]; rfl

open Rj.Run in
/-- what a changed skeleton would do (the shape of seeded change C07-7): an error arm that does not return lets a later
success hide the failure -/
example : (executeSpec { RunSkel.ref with syncErrReturn := none, finalIsSuccess := false } true true [false, true]).code = 0 := by
  decide

open Rj.Run in
example : (executeSpec RunSkel.ref true true [true, false, true]) = ⟨12, 2, 1, 1, true, true⟩ := by decide

end Rj.C07
