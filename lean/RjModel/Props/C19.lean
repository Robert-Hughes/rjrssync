import RjModel.Model.Exe
import RjModel.Lemmas.ExeLemmas
import RjModel.Lemmas.PeLemmas
/-! # C19 — a deployed binary is a faithful, runnable, self-propagating copy

The model `Rj.Exe` is the four functions of `exe_utils.rs` on byte lists with every Rust failure mode
explicit; it is tied to the code **byte for byte** (outputs, errors and panics) by the L1
correspondence.  Proved here: for **ELF64** the general round trip and the preservation statement for
every image that meets the explicit, decidable layout predicate `ValidElf` and every payload
(`C19_elf_roundtrip`, `C19_elf_preserved`; helper lemmas in `Lemmas/ExeLemmas.lean`); the field access
lemmas the surgery rests on; and the negation of "a malformed executable is rejected with an error
rather than a crash" by concrete witnesses, which replay on the real code (known finding C19-F9).
For **PE** the round trip and the preservation statement are proved too, for every image meeting `ValidPe`
(`C19_pe_roundtrip`, `C19_pe_preserved`; helper lemmas in `Lemmas/PeLemmas.lean`); what stays outside the theorems:
images outside the two layout predicates, and that a loader accepts the result (DESIGN.md, C19).  For small file
alignments the code was wrong: finding C19-F10, repaired in /repo (`C19_pe_small_alignment_repaired`). -/
namespace Rj.C19
open Rj.Exe

/-- **Field write/read round trip**: a value written with `write_field` at an in-range offset is read
back by `read_field`, and the vector keeps its length (the basis of every header update). -/
theorem C19_field_roundtrip (b : Bytes) (off size v : Nat) (hr : off + size ≤ b.length) (hw : off + size < U64)
    (hv : v < 256 ^ size) :
    ∃ b', writeField b off size v = .ok b' ∧ b'.length = b.length ∧ readField b' off size = .ok v :=
  have hl := length_patch_of rfl (length_leBytes size v) hr
  ⟨_, writeField_eq b off size v hr hw, hl, by rw [readField_eq _ off size (hl ▸ hr) hw, leVal_slice_patch rfl hr hv]⟩

/-- bytes outside the field are untouched -/
theorem C19_field_write_frame (b : Bytes) (off size v : Nat) (hr : off + size ≤ b.length) (hw : off + size < U64) (i : Nat)
    (hi : i < off ∨ off + size ≤ i) :
    ∀ b', writeField b off size v = .ok b' → b'[i]? = b[i]? := by
  intro b' h
  rw [writeField_eq b off size v hr hw] at h
  cases h
  exact getElem?_patch_outside rfl (length_leBytes size v) hr (hi.elim outside_lt outside_ge)

/-- **Malformed input can crash** (1): an ELF header whose section-table offset is 2^64-1: the
offset arithmetic overflows (dev profile: panic) instead of giving an error. -/
theorem C19_elf_overflow_witness :
    let hdr : Bytes := [0x7f, 0x45, 0x4c, 0x46, 2, 1, 1] ++ zeros 33 ++ [255, 255, 255, 255, 255, 255, 255, 255] ++ zeros 10 ++ [64, 0, 1, 0, 0, 0]
    addElf hdr [0x2e, 0x78] [1, 2, 3] = .panic ∧ extractElf hdr [0x2e, 0x78] = .panic := by
  decide

def pe1 : Bytes := [0, 0, 0, 0, 0, 0, 0, 0, 0, 0, 0, 0, 0, 0, 0, 0, 0, 0, 0, 0, 0, 0, 0, 0, 0, 0, 0, 0, 0, 0, 0, 0, 0, 0, 0, 0, 0, 0, 0, 0, 0, 0, 0, 0, 0, 0, 0, 0, 0, 0, 0, 0, 0, 0, 0, 0, 0, 0, 0, 0, 64, 0, 0, 0, 80, 69, 0, 0, 0, 0, 1, 0, 0, 0, 0, 0, 0, 0, 0, 0, 0, 0, 0, 0, 240, 0, 0, 0, 0, 0, 0, 0, 0, 0, 0, 0, 0, 0, 0, 0, 0, 0, 0, 0, 0, 0, 0, 0, 0, 0, 0, 0, 0, 0, 0, 0, 0, 0, 0, 0, 16, 0, 0, 0, 16, 0, 0, 0, 0, 0, 0, 0, 0, 0, 0, 0, 0, 0, 0, 0, 0, 0, 0, 0, 0, 0, 0, 0, 0, 0, 0, 0, 0, 0, 0, 0, 0, 0, 0, 0, 0, 0, 0, 0, 0, 0, 0, 0, 0, 0, 0, 0, 0, 0, 0, 0, 0, 0, 0, 0, 0, 0, 0, 0, 0, 0, 0, 0, 0, 0, 0, 0, 0, 0, 0, 0, 0, 0, 0, 0, 0, 0, 0, 0, 0, 0, 0, 0, 0, 0, 0, 0, 0, 0, 0, 0, 0, 0, 0, 0, 0, 0, 0, 0, 0, 0, 0, 0, 0, 0, 0, 0, 0, 0, 0, 0, 0, 0, 0, 0, 0, 0, 0, 0, 0, 0, 0, 0, 0, 0, 0, 0, 0, 0, 0, 0, 0, 0, 0, 0, 0, 0, 0, 0, 0, 0, 0, 0, 0, 0, 0, 0, 0, 0, 0, 0, 0, 0, 0, 0, 0, 0, 0, 0, 0, 0, 0, 0, 0, 0, 0, 0, 0, 0, 0, 0, 0, 0, 0, 0, 0, 0, 0, 0, 0, 0, 0, 0, 0, 0, 0, 0, 0, 0, 0, 0, 0, 0, 0, 0, 0, 0, 0, 0, 0, 0, 0, 0, 46, 115, 48, 0, 0, 0, 0, 0, 5, 0, 0, 0, 16, 0, 0, 0, 16, 0, 0, 0, 160, 1, 0, 0, 0, 0, 0, 0, 0, 0, 0, 0, 0, 0, 0, 0, 0, 0, 0, 0, 0, 0, 0, 0, 0, 0, 0, 0, 0, 0, 0, 0, 0, 0, 0, 0, 0, 0, 0, 0, 0, 0, 0, 0, 0, 0, 0, 0, 0, 0, 0, 0, 0, 0, 0, 0, 0, 0, 0, 0, 0, 0, 0, 0, 0, 0, 0, 0, 65, 30, 126, 194, 115, 0, 0, 0, 0, 0, 0, 0, 0, 0, 0, 0]

/-- (2) a well-formed PE image and an **empty payload**: `align(0, FileAlignment)` underflows. -/
theorem C19_pe_empty_payload_witness : addPe pe1 [0x2e, 0x72] [] = .panic := by
  decide +kernel

/-- non-vacuity of the model on the same image: with a payload it succeeds, and extraction returns
the payload padded with zeros to the file alignment (16) — a *test* on one image, not the theorem -/
example : (match addPe pe1 [0x2e, 0x72] [1, 2] with
           | .ok out => decide (extractPe out [0x2e, 0x72] = .ok (some ([1, 2] ++ zeros 14)))
           | _ => false) = true := by
  decide +kernel

def pe2 : Bytes := [0, 0, 0, 0, 0, 0, 0, 0, 0, 0, 0, 0, 0, 0, 0, 0, 0, 0, 0, 0, 0, 0, 0, 0, 0, 0, 0, 0, 0, 0, 0, 0, 0, 0, 0, 0, 0, 0, 0, 0, 0, 0, 0, 0, 0, 0, 0, 0, 0, 0, 0, 0, 0, 0, 0, 0, 0, 0, 0, 0, 68, 0, 0, 0, 0, 0, 0, 0, 80, 69, 0, 0, 0, 0, 1, 0, 0, 0, 0, 0, 0, 0, 0, 0, 0, 0, 0, 0, 64, 0, 0, 0, 0, 0, 0, 0, 0, 0, 0, 0, 0, 0, 0, 0, 0, 0, 0, 0, 0, 0, 0, 0, 0, 0, 0, 0, 0, 0, 0, 0, 0, 0, 0, 0, 16, 0, 0, 0, 16, 0, 0, 0, 0, 0, 0, 0, 0, 0, 0, 0, 0, 0, 0, 0, 0, 0, 0, 0, 0, 0, 0, 0, 0, 0, 0, 0, 46, 115, 48, 0, 0, 0, 0, 0, 16, 0, 0, 0, 16, 0, 0, 0, 16, 0, 0, 0, 208, 0, 0, 0, 0, 0, 0, 0, 0, 0, 0, 0, 0, 0, 0, 0, 0, 0, 0, 0, 0, 0, 0, 0, 0, 0, 0, 0, 0, 0, 0, 0, 228, 177, 71, 200, 194, 249, 221, 29, 43, 245, 49, 21, 108, 253, 216, 70]

/-- (3) **Finding C19-F10, repaired in /repo (dedda2b)**: one section, `FileAlignment` 16, only 12 bytes between the section
table and the first raw data.  `add_section_to_pe` used to make room by inserting *one* file alignment (16 bytes), which
with the gap is less than the 40 bytes of the section header it then writes - the header ran into the first section's raw
data.  It now inserts as many whole file alignments as the header needs (here 32): the 16 bytes of section 0 (offset 208 of
the input) are found unchanged at 240, where the updated `PointerToRawData` (header field at 156+20) points, and the payload
reads back.  (A *test* on the image that exposed the defect; it replays on the real function, byte for byte.) -/
theorem C19_pe_small_alignment_repaired :
    (match addPe pe2 [0x2e, 0x72] [1, 2, 3, 4] with
     | .ok out => decide ((out.drop 240).take 16 = (pe2.drop 208).take 16) &&
                  decide (leVal ((out.drop 176).take 4) = 240) &&
                  decide (extractPe out [0x2e, 0x72] = .ok (some ([1, 2, 3, 4] ++ zeros 12)))
     | _ => false) = true := by
  decide +kernel

/-! ### ELF64: the general statements -/

/-- **ELF round trip, for every valid layout and every payload**: if the image is an ELF64 file of the
layout `add_section_to_elf` is written for (`ValidElf`: little-endian V1 header, section header table
last, headers of at least 40 bytes, the section-names section behind the ELF header and in front of the
table, every section name a terminated string inside it and different from the new name, no offset
overflow; the new name NUL-free and shorter than 32 bytes) and the sizes stay below 2^64, then adding
the section succeeds and extracting it from the result returns exactly the payload - any number of
sections, any position of the names section, any header size, any payload including the empty one. -/
theorem C19_elf_roundtrip (b name payload : Bytes) (v : ValidElf b name)
    (hsz : b.length + payload.length + 2 ^ 17 < U64) :
    ∃ out, addElf b name payload = .ok out ∧ extractElf out name = .ok (some payload) :=
  C19_elf_roundtrip_aux b name payload v hsz

/-- **ELF preservation**: in the result, every byte below the end of the names section except the two
header fields `e_shoff` (40..47) and `e_shnum` (60,61) is the input's; the bytes from there to the old
section header table are the input's moved up by the inserted name (`name.length + 1`); the payload and
then the old section header table follow, the table changed only in the names section's size (longer by
the inserted name) and in the file offsets of the sections whose data lies at or behind the insertion point, whatever their
index (moved by the same amount; the repair of finding C19-F12) - so every section's contents are found, unchanged, where
the result's header for it points, and every segment that lies in front of the names section's end loads as before. -/
theorem C19_elf_preserved (b name payload : Bytes) (v : ValidElf b name)
    (hsz : b.length + payload.length + 2 ^ 17 < U64) :
    ∃ out T2, addElf b name payload = .ok out ∧ tableOk b name T2 ∧
      (∀ j, j < eNamesOff b + eNamesSize b → ¬ (40 ≤ j ∧ j < 48) → ¬ (60 ≤ j ∧ j < 62) → out[j]? = b[j]?) ∧
      (∀ j, eNamesOff b + eNamesSize b ≤ j → j < eShoff b → out[j + (name.length + 1)]? = b[j]?) ∧
      (∀ j, j < eNum b * eEntsize b → out[eShoff b + (name.length + 1) + payload.length + j]? = T2[j]?) ∧
      eShoff out = eShoff b + (name.length + 1) + payload.length ∧ eNum out = eNum b + 1 :=
  addElf_preserved b name payload v hsz

/-- **ELF: every old section is found, unchanged, where the result's header for it points** - whatever the order of the
sections in the file and in the table (this is what finding C19-F12 violated for layouts whose file order and table order
disagree; proved after the repair): for a section other than the names section that lies behind the ELF header, in front of the
section header table, and does not straddle the insertion point, the bytes at the offset its header in the RESULT holds are
the bytes it had in the input. -/
theorem C19_elf_sections_preserved (b name payload : Bytes) (v : ValidElf b name)
    (hsz : b.length + payload.length + 2 ^ 17 < U64) :
    ∃ out, addElf b name payload = .ok out ∧
      ∀ idx, idx < eNum b → idx ≠ eStrndx b →
        64 ≤ secField b idx 0x18 8 → secField b idx 0x18 8 + secField b idx 0x20 8 ≤ eShoff b →
        (secField b idx 0x18 8 + secField b idx 0x20 8 ≤ eNamesOff b + eNamesSize b ∨ eNamesOff b + eNamesSize b ≤ secField b idx 0x18 8) →
        slice out (leVal (slice out (eShoff out + idx * eEntsize b + 0x18) 8)) (secField b idx 0x20 8) =
          slice b (secField b idx 0x18 8) (secField b idx 0x20 8) :=
  addElf_sections_preserved b name payload v hsz

/-- a 196-byte ELF64 image: header, a names section `"\0.s\0"` at 64, the null section and the names section -/
def elf1 : Bytes := [127, 69, 76, 70, 2, 1, 1, 0, 0, 0, 0, 0, 0, 0, 0, 0, 0, 0, 0, 0, 0, 0, 0, 0, 0, 0, 0, 0, 0, 0, 0, 0, 0, 0, 0, 0, 0, 0, 0, 0, 68, 0, 0, 0, 0, 0, 0, 0, 0, 0, 0, 0, 0, 0, 0, 0, 0, 0, 64, 0, 2, 0, 1, 0, 0, 46, 115, 0, 0, 0, 0, 0, 0, 0, 0, 0, 0, 0, 0, 0, 0, 0, 0, 0, 0, 0, 0, 0, 0, 0, 0, 0, 0, 0, 0, 0, 0, 0, 0, 0, 0, 0, 0, 0, 0, 0, 0, 0, 0, 0, 0, 0, 0, 0, 0, 0, 0, 0, 0, 0, 0, 0, 0, 0, 0, 0, 0, 0, 0, 0, 0, 0, 1, 0, 0, 0, 3, 0, 0, 0, 0, 0, 0, 0, 0, 0, 0, 0, 0, 0, 0, 0, 0, 0, 0, 0, 64, 0, 0, 0, 0, 0, 0, 0, 4, 0, 0, 0, 0, 0, 0, 0, 0, 0, 0, 0, 0, 0, 0, 0, 0, 0, 0, 0, 0, 0, 0, 0, 0, 0, 0, 0, 0, 0, 0, 0]

/-- Non-vacuity: the layout predicate holds of a concrete image (and the check evaluates the same predicate,
through the driver command `validelf`, on every generated image and on an executable linked by the
toolchain of this machine) -/
example : ValidElf elf1 [0x2e, 0x72] := by decide +kernel

/-- ... and the conclusion computed on it (a *test* of the model on one image; the theorem is above) -/
example : (match addElf elf1 [0x2e, 0x72] [9, 8, 7] with
           | .ok out => decide (extractElf out [0x2e, 0x72] = .ok (some [9, 8, 7]))
           | _ => false) = true := by
  decide +kernel

/-- the predicate is not trivially true: an image whose names section would lie inside the ELF header is refused -/
example : ¬ ValidElf (elf1.set 160 8) [0x2e, 0x72] := by decide +kernel

/-! ### PE: the general round trip -/

/-- **PE round trip, for every valid layout and every non-empty payload**: if the image is a PE file of the layout
`add_section_to_pe` is written for (`ValidPe`: the signature offset points behind the DOS header at `PE\0\0`; at least one
section and room for one more; an optional header of at least 64 bytes; non-zero alignments; the aligned end of the section
table inside the file; sizes, addresses and moved raw pointers below 2^32; no section has the new name; the name NUL-free and
at most 8 bytes; the payload not empty) then adding the section succeeds and extracting it from the result returns the
payload **followed by zeros up to the file alignment** and nothing else - any number of sections, any header gap (room for
the new header or not: with the repair of C19-F10 as many whole file alignments are inserted as it takes), any alignment. -/
theorem C19_pe_roundtrip (b name payload : Bytes) (v : ValidPe b name payload) :
    ∃ out, addPe b name payload = .ok out ∧
      extractPe out name = .ok (some (payload ++ zeros (alignUp payload.length (pFileAlign b) - payload.length))) ∧
      alignUp payload.length (pFileAlign b) < payload.length + pFileAlign b := by
  obtain ⟨out, h1, h2⟩ := C19_pe_roundtrip_aux b name payload v
  exact ⟨out, h1, h2, (alignUp_bounds v.hpl v.hfa).2⟩

/-- **PE preservation, for every valid layout**: in the result, below the end of the old section table every byte is the
input's except the section count, `SizeOfImage`, `SizeOfHeaders` and the raw-data pointers of the old sections; every byte of
the input from there on that is not overwritten by the new 40-byte header is found unchanged `pBump b` bytes further on
(`pBump` = 0 when there was room for the header, else as many whole file alignments as it takes - the repair of C19-F10);
and each old section's `PointerToRawData` grew by exactly `pBump b`: an old section's raw data that lies behind the aligned
end of the section table (`ValidPe` does not ask for that) is found, unchanged, where its header in the result points. -/
theorem C19_pe_preserved (b name payload : Bytes) (v : ValidPe b name payload) :
    ∃ out, addPe b name payload = .ok out ∧
      (∀ j, j < pEnd b → (∀ i, i < pNum b → ¬ (pHdrs b + i * 40 + 20 ≤ j ∧ j < pHdrs b + i * 40 + 24)) →
          ¬ (pFh b + 2 ≤ j ∧ j < pFh b + 4) → ¬ (pOpt b + 56 ≤ j ∧ j < pOpt b + 64) → out[j]? = b[j]?) ∧
      (∀ j, pEnd b + 40 ≤ j + pBump b → j < b.length → pEnd b ≤ j → out[j + pBump b]? = b[j]?) ∧
      (∀ i, i < pNum b → leVal (slice out (pHdrs b + i * 40 + 20) 4) = leVal (slice b (pHdrs b + i * 40 + 20) 4) + pBump b) := by
  obtain ⟨out, h, S⟩ := addPe_spec b name payload v
  exact ⟨out, h, S.low, S.high, S.ptr⟩

/-- Non-vacuity: the two concrete images above meet the layout predicate.  Both have a file alignment (16) smaller than a
section header and no room for the new one behind the section table (`pGap` is 0 for `pe1`, 12 for `pe2`: 48 and 32 bytes
are inserted): for neither would one file alignment more have been enough (finding C19-F10, which `pe2` exposed) -/
example : ValidPe pe1 [0x2e, 0x72] [1, 2] ∧ ValidPe pe2 [0x2e, 0x72] [1, 2, 3, 4] := by
  constructor <;> decide +kernel

/-- the predicate refuses what the code cannot handle: an empty payload (`align(0, _)` underflows: C19-F9) -/
example : ¬ ValidPe pe1 [0x2e, 0x72] [] := by decide +kernel

end Rj.C19
