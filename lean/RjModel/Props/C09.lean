import RjModel.Model.Shutdown
import RjModel.Generated.Shutdown
import RjModel.Generated.Skeletons
import RjModel.Lemmas.RunLemmas
import RjModel.Generated.RunSkel
/-! # C09 — every run terminates, also when something breaks mid-transfer -/
namespace Rj.C09
open Rj.Shut

/-- the shutdown / query skeleton of the source is the one the theorems are proved for -/
theorem C09_skeleton_matches : Generated.shutdownFeatures = ShutFeatures.ref := by decide

/-- **Shutdown never gets stuck, whatever is queued**: while the doer has not exited, some step is
enabled — for every capacity and every occupancy (below, at, above the capacity), however many
responses the doer still wants to send. -/
theorem C09_shutdown_no_deadlock (cap : Nat) (s : SState) (h : s.doerExited = false) :
    ∃ a, (sstep true cap s a).isSome := by
  by_cases hq : s.queued = 0
  · by_cases hp : s.pending = 0
    · exact ⟨.doerExit, by simp [sstep, h, hp]⟩
    · exact ⟨.doerSend, by simp [sstep, h, hq]; omega⟩
  · exact ⟨.bossDrain, by simp [sstep]; omega⟩

/-- **…and it terminates under every schedule**: every enabled step strictly decreases
`2·pending + queued + [doer alive]`, so there is no infinite execution. -/
theorem C09_shutdown_measure (cap : Nat) (s s' : SState) (a : SAct) (h : sstep true cap s a = some s') :
    smeasure s' < smeasure s := by
  revert h
  fun_cases sstep true cap s a <;> intro h <;> cases h <;> simp_all [smeasure] <;> omega

/-- The code before the repair (the boss only joins): with more than the capacity queued and the doer
still wanting to send, nothing is enabled — the hang that was observed. -/
theorem C09_hang_witness : ∀ a, sstep false 10 ⟨5, 11, false⟩ a = none := by
  intro a; cases a <;> decide

/-- **The query loop tolerates a spuriously ready select** (repaired: non-blocking receive): from
every state in which a listing is still outstanding, a step is enabled; a spurious wake-up changes
nothing and the loop can go on. -/
theorem C09_query_no_deadlock (s : QS) (hb : s.blocked = false) (h : s.srcLeft + s.destLeft > 0) :
    ∃ a, (qstep true s a).isSome := by
  by_cases hs : s.srcLeft > 0
  · exact ⟨.recv .src, by simp [qstep, hs, hb]⟩
  · have hd : s.destLeft > 0 := by omega
    exact ⟨.recv .dest, by simp [qstep, hd, hb]⟩

/-- the repaired loop never becomes blocked: `blocked` is preserved by every step -/
theorem C09_query_never_blocks (s s' : QS) (a : QAct) (hb : s.blocked = false) (h : qstep true s a = some s') :
    s'.blocked = false := by
  revert h
  -- `blocked` is set only in branches of the loop before the repair (`repaired = false`)
  fun_cases qstep true s a <;> intro h <;> cases h <;> simp_all

theorem C09_query_spurious_harmless (s : QS) (hb : s.blocked = false) (side : Side) :
    qstep true s (.spurious side) = some s := by
  cases side <;> simp [qstep, hb]

/-- before the repair a spurious wake-up for a side that has nothing more to send blocks the boss for good -/
theorem C09_query_hang_witness :
    qstep false ⟨0, 3, false⟩ (.spurious .src) = some ⟨0, 3, true⟩ ∧
    ∀ a, qstep false ⟨0, 3, true⟩ a = none := by
  refine ⟨by decide, ?_⟩
  rintro (side | side) <;> cases side <;> decide

/-- **The wait loop of a sender waiting for space checks the flag the receiver sets when it is dropped** (a feature
extracted from the source on every run; the channel model has no receiver-gone transition, so that the sender is then
released — the boss gets the disconnection error instead of spinning forever — is read off the source, not proved). -/
theorem C09_sender_released_when_receiver_gone : Generated.channelFeatures.waitChecksReceiverGone = true := by decide

/-- Non-vacuity: from "above capacity" the repaired shutdown reaches the exited state. -/
example : (List.foldl (fun (s : Option SState) a => s.bind fun s => sstep true 2 s a) (some ⟨1, 3, false⟩)
            [.bossDrain, .bossDrain, .bossDrain, .doerSend, .bossDrain, .doerExit]) = some ⟨0, 0, true⟩ := by
  decide

open Rj.Run in
/-- **Every doer that was launched is shut down exactly once, on every path of `execute_spec`** (a failed second launch, a
failing sync at any position, the normal end) - on the control skeleton extracted from the current source; so no path
hands control back with a doer thread or a remote doer process still waiting for commands. -/
theorem C09_every_launched_comms_shut_down_once (srcOk destOk : Bool) (outs : List Bool)
    (hs : Generated.runSkelRecognised = true ∧ Generated.runSkel = RunSkel.ref) :
    let r := executeSpec Generated.runSkel srcOk destOk outs
    r.srcShutdowns = (if r.srcLaunched then 1 else 0) ∧ r.destShutdowns = (if r.destLaunched then 1 else 0) := by
  rw [hs.2, executeSpec_ref]
  cases srcOk <;> cases destOk <;> simp

open Rj.Run in
theorem C09_run_skeleton_matches : Generated.runSkelRecognised = true ∧ Generated.runSkel = RunSkel.ref := by decide

end Rj.C09
