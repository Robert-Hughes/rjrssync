import RjModel.Model.Settings
import RjModel.Generated.Defaults
import RjModel.Generated.PathDesc
import RjModel.Generated.BehaviourWrites
/-! # C16 — effective settings follow the documented precedence and defaults

`Generated.fieldRules` is re-extracted from `resolve_spec` / `impl Default for SyncSpec` on every run;
the theorems below are therefore re-checked against what the match arms say *now*. -/
namespace Rj.C16

def fieldNames : List String :=
  ["dest_file_newer_behaviour", "dest_file_older_behaviour", "files_same_time_behaviour",
   "dest_entry_needs_deleting_behaviour", "dest_root_needs_deleting_behaviour"]

/-- every behaviour field of a sync has a rule in the source, in the documented set -/
theorem C16_rules_cover : Generated.fieldRules.map (·.name) = fieldNames := rfl

/-- The shape every behaviour field has in the source: its own flag overrides it, the all-destructive
value is passed through unchanged unless the field says skip, and that block comes before the flag. -/
def Standard (r : FieldRule) : Prop :=
  r.flag ≠ "" ∧ r.guardNe = some .skip ∧ r.mapPrompt = .prompt ∧ r.mapError = .error ∧ r.mapSkip = .skip ∧
    r.mapProceed = .proceed ∧ r.allBeforeFlag = true

instance (r : FieldRule) : Decidable (Standard r) := by unfold Standard; infer_instance

/-- a rule of that shape computes the documented rule, whatever its name and default -/
theorem resolve_standard (r : FieldRule) (h : Standard r) (spec all flag : Option Beh) :
    r.resolve spec all flag = docResolve r.default spec all flag := by
  obtain ⟨hf, hg, h1, h2, h3, h4, hb⟩ := h
  have hm : ∀ a, r.map a = a := by intro a; cases a <;> simp [FieldRule.map, *]
  cases flag <;> cases all <;>
    simp [FieldRule.resolve, FieldRule.applyFlag, FieldRule.applyAll, docResolve, hf, hg, hb, hm]

/-- the five rows of the extracted table -/
theorem rules_standard : ∀ r ∈ Generated.fieldRules, Standard r ∧ some r.default = docDefault r.name := by decide

/-- **Precedence**, over the whole finite product: for every behaviour field, every spec-file value
(absent or one of four), every all-destructive value and every individual flag, the code computes
exactly the documented rule with the documented default. -/
theorem C16_precedence (r : FieldRule) (hr : r ∈ Generated.fieldRules) (spec all flag : Option Beh) :
    some (r.resolve spec all flag) = (docDefault r.name).map (fun d => docResolve d spec all flag) := by
  obtain ⟨hs, hd⟩ := rules_standard r hr
  rw [← hd, resolve_standard r hs]; rfl

/-- **Defaults**: newer=prompt, older=overwrite, same time=skip, entry deletion=delete,
root deletion=prompt, deploy=prompt. -/
theorem C16_defaults :
    (∀ r ∈ Generated.fieldRules, some r.default = docDefault r.name) ∧ Generated.deployDefault = .prompt :=
  ⟨fun r hr => (rules_standard r hr).2, rfl⟩

/-- **Command-line filters replace spec-file filters** (and an empty command-line list leaves them). -/
theorem C16_filters_replace (k : ResolveCfg) (hk : k.filtersReplace = Generated.filtersReplace) (c : Cli) (s : SyncSpecM) :
    (overrideSync k c s).filters = if c.filters = [] then s.filters else c.filters := by
  have : Generated.filtersReplace = true := by decide
  simp only [overrideSync, hk, this, Bool.true_and]
  cases c.filters <;> simp

/-- **The deploy flag, when given, is the value in force**; without it the value is `base`, whatever the spec file or the
default gave (the statement does not say which of the two). -/
theorem C16_deploy (k : ResolveCfg) (hk : k.deployFlagOverrides = Generated.deployFlagOverrides) (c : Cli) (doc : YDoc) (s : SpecM)
    (h : resolveSpec k c doc = .ok s) :
    ∃ base, s.deploy = c.deploy.getD base := by
  have : Generated.deployFlagOverrides = true := by decide
  simp only [resolveSpec] at h
  split at h
  · cases h
  · next b hb => cases h; exact ⟨b.deploy, by simp [hk, this]⟩

/-- **A sync described in a spec file behaves like the same sync given as `SRC DEST`**: if the spec
file parses to exactly the one sync that the two path arguments describe, both ways resolve to the
same effective spec, for every combination of the other command-line options. -/
theorem C16_spec_equals_cli (k : ResolveCfg) (c : Cli) (doc : YDoc) (s d : String) (ps pd : PathDesc)
    (hs : parsePathDesc s = some ps) (hd : parsePathDesc d = some pd)
    (hdoc : parseSpecDoc k.rules k.deployDefault doc =
      some { srcHost := ps.host, srcUser := ps.user, destHost := pd.host, destUser := pd.user, deploy := k.deployDefault,
             syncs := [{ defaultSync k.rules with src := ps.path, dest := pd.path }] }) :
    resolveSpec k { c with src := some s, dest := some d, specGiven := false } YDoc.noDocument =
    resolveSpec k { c with src := none, dest := none, specGiven := true } doc := by
  simp [resolveSpec, hs, hd, hdoc, overrideSync]

def knownRootKeys : List String :=
  ["src_hostname", "src_username", "dest_hostname", "dest_username", "deploy_behaviour", "syncs"]

/-- **Malformed spec files are rejected** (1): anything that is not a dictionary at the root —
a YAML syntax error, no document, a list, a scalar. -/
theorem C16_rejects_non_dictionary (rules : List FieldRule) (dd : DeployBeh) :
    parseSpecDoc rules dd .parseError = none ∧ parseSpecDoc rules dd .noDocument = none ∧
    parseSpecDoc rules dd .notHash = none := ⟨rfl, rfl, rfl⟩

/-- (2) an unknown or non-string key anywhere in the root dictionary -/
theorem C16_rejects_unknown_root_key (rules : List FieldRule) (kvs : List (YScalar × YVal)) (acc : SpecM)
    (k : YScalar) (v : YVal) (hm : (k, v) ∈ kvs) (hk : ∀ s, k = .str s → s ∉ knownRootKeys) :
    parseDocKvs rules kvs acc = none := by
  fun_induction parseDocKvs rules kvs acc <;> try rfl   -- done where the head is rejected as it is
  next => cases hm   -- `[]`
  all_goals
    -- a known key at the head: it is not the offending pair, which is then met further on
    rename_i ih
    rcases List.mem_cons.mp hm with h | h
    · cases h; exact absurd (by simp [knownRootKeys]) (hk _ rfl)
    · simp only [Option.bind_eq_none_iff]; intros; exact ih _ h

/-- (3) a sync entry that is not a dictionary, or whose pairs are accepted and leave `src` or `dest` empty -/
theorem C16_rejects_bad_sync (rules : List FieldRule) :
    (∀ t, parseSync rules (.otherI t) = none) ∧
    (∀ kvs s, parseSyncKvs kvs (defaultSync rules) = some s → s.src = "" → parseSync rules (.hash kvs) = none) ∧
    (∀ kvs s, parseSyncKvs kvs (defaultSync rules) = some s → s.dest = "" → parseSync rules (.hash kvs) = none) := by
  refine ⟨fun _ => rfl, ?_, ?_⟩
  · intro kvs s h hs; simp [parseSync, h, hs]
  · intro kvs s h hd; simp only [parseSync, h, Option.bind_some, hd]; split <;> rfl

/-- (4) wrong types, a bad enum value and a key that is not a string, each at the head of a sync entry's pairs -/
theorem C16_rejects_bad_values (acc : SyncSpecM) (rest : List (YScalar × YVal2)) (t : String) (items : List YScalar) :
    parseSyncKvs ((.str "src", .otherV t) :: rest) acc = none ∧
    parseSyncKvs ((.str "dest", .arr items) :: rest) acc = none ∧
    parseSyncKvs ((.str "filters", .scalar (.str t)) :: rest) acc = none ∧
    parseSyncKvs ((.str "filters", .arr [.other t]) :: rest) acc = none ∧
    (parseBehName "overwrite" t = none → parseSyncKvs ((.str "dest_file_newer_behaviour", .scalar (.str t)) :: rest) acc = none) ∧
    parseSyncKvs ((.other t, .scalar (.str t)) :: rest) acc = none := by
  refine ⟨rfl, rfl, rfl, rfl, ?_, rfl⟩
  intro h; simp [parseSyncKvs, strOf, h]

/-- (5) a rejected spec file is an error of `resolve_spec` (exit status 18, before any doer is launched) -/
theorem C16_malformed_is_error (k : ResolveCfg) (c : Cli) (doc : YDoc) (hc : c.specGiven = true)
    (hs : c.src = none) (hd : c.dest = none) (h : parseSpecDoc k.rules k.deployDefault doc = none) :
    resolveSpec k c doc = .error .specFile := by
  simp [resolveSpec, hc, hs, hd, h]

/-- Non-vacuity: with the extracted rules, `--all-destructive-behaviour error` over a spec file that
sets `files_same_time: skip` and an individual `--dest-file-older overwrite`. -/
example :
    let k : ResolveCfg := ⟨Generated.fieldRules, Generated.deployDefault, Generated.filtersReplace, Generated.deployFlagOverrides⟩
    let doc := YDoc.hash [(.str "syncs", .arr [.hash [(.str "src", .scalar (.str "a")), (.str "dest", .scalar (.str "b")),
                  (.str "files_same_time_behaviour", .scalar (.str "SKIP"))]])]
    let c : Cli := ⟨none, none, true, ["-x"], none, none, some .proceed, none, none, none, some .error⟩
    (match resolveSpec k c doc with
     | .ok s => decide (s = ⟨"", "", "", "", .prompt, [⟨"a", "b", ["-x"], .error, .proceed, .skip, .error, .error⟩]⟩)
     | .error _ => false) = true := by
  decide

/-- **The drive-letter special case of `[[user@]host:]path` is the one the model has**: the guard of that arm of
`RemotePathDesc::from_str`, read off the source on every run, is "one character before the first colon, and after it nothing
or a backslash" - so `h:/abs/path` names a path on host `h` (and the function splits exactly twice: at the first `:` and the
first `@`). -/
theorem C16_path_desc_drive_guard :
    Generated.pathDescDriveGuard = "A.len()==1&&(B.is_empty()||B.starts_with('\\\\'))" ∧ Generated.pathDescSplits = 2 :=
  ⟨rfl, rfl⟩

/-- **The behaviours in force change only by a remembered prompt answer** (extracted from boss_sync.rs on every run): the only
assignments to a behaviour field of the sync context are the four
`if let Some(b) = prompt_result.remembered_behaviour { ctx.<field> = b; }` inside the resolution of that same field - which is
what the model's `Conf` does (nothing else, in particular not the root-deletion gate, rewrites a
behaviour after `resolve_spec`). -/
theorem C16_behaviours_change_only_by_remembered_answers :
    Generated.behaviourWrites = [("dest_entry_needs_deleting_behaviour", "remembered"), ("dest_file_newer_behaviour", "remembered"),
      ("dest_file_older_behaviour", "remembered"), ("files_same_time_behaviour", "remembered")] := rfl

end Rj.C16
