import RjModel.Model.Chunks
import RjModel.Lemmas.BossLoops
import RjModel.Generated.Constants
/-! # C11 — file contents are transferred exactly, whatever the length -/
namespace Rj.C11

/-- what was held back goes out with `more_to_follow` set -/
theorem mem_held {α : Type} {prev : List α} {c : List α × Bool} (h : c ∈ (if prev = [] then [] else [(prev, true)])) :
    prev ≠ [] ∧ c = (prev, true) := by
  split at h
  · cases h
  · next hp => exact ⟨hp, List.mem_singleton.mp h⟩

/-- **The chunks are the file.**  For every file, every chunk configuration and every schedule of
short reads, the concatenation of the emitted chunks is the file. -/
theorem C11_chunks_concat {α : Type} (k : ChunkCfg) (file : List α) (sched : List Nat) (chunk nextLen : Nat) (prev : List α) :
    ((reader k file sched chunk nextLen prev).map (·.1)).flatten = prev ++ file := by
  -- the two branches of `reader`: the file is exhausted (`case1`), or one `read` (`case2`, binders named as the model's `let`s)
  fun_induction reader k file sched chunk nextLen prev with
  | case1 prev => simp
  | case2 file sched chunk nextLen prev h want n data rest out next ih =>
    have : data ++ rest = file := List.take_append_drop n file
    simp only [List.map_append, List.flatten_append, ih, out]
    split <;> simp [*]

theorem C11_file_concat {α : Type} (k : ChunkCfg) (file : List α) (sched : List Nat) :
    ((readFile k file sched).map (·.1)).flatten = file := by
  simpa [readFile] using C11_chunks_concat k file sched k.first k.first []

/-- **Exactly the last chunk says "no more".** -/
theorem C11_chunks_flags {α : Type} (k : ChunkCfg) (file : List α) (sched : List Nat) (chunk nextLen : Nat) (prev : List α) :
    ∃ pre last, reader k file sched chunk nextLen prev = pre ++ [(last, false)] ∧ ∀ c ∈ pre, c.2 = true := by
  fun_induction reader k file sched chunk nextLen prev with
  | case1 => exact ⟨[], _, rfl, by simp⟩
  | case2 file sched chunk nextLen prev h want n data rest out next ih =>
    obtain ⟨pre, last, he, hall⟩ := ih
    refine ⟨out ++ pre, last, by rw [he, List.append_assoc], fun c hc => ?_⟩
    rcases List.mem_append.mp hc with h1 | h1
    · rw [(mem_held h1).2]
    · exact hall c h1

/-- **No empty chunk** is emitted unless it is the single chunk of an empty file. -/
theorem C11_chunks_nonempty {α : Type} (k : ChunkCfg) (file : List α) (sched : List Nat) (chunk nextLen : Nat) (prev : List α)
    (_hp : prev ≠ [] ∨ file = []) :
    ∀ c ∈ reader k file sched chunk nextLen prev, c.1 = [] → (prev = [] ∧ file = []) := by
  fun_induction reader k file sched chunk nextLen prev with
  | case1 prev => intro c hc h0; simp at hc; subst hc; exact ⟨h0, rfl⟩
  | case2 file sched chunk nextLen prev h want n data rest out next ih =>
    intro c hc h0
    have hd : data ≠ [] := fun e => (List.take_eq_nil_iff.mp e).elim (by simp only [n]; omega) h
    rcases List.mem_append.mp hc with h1 | h1
    · obtain ⟨hp', rfl⟩ := mem_held h1
      exact absurd h0 hp'
    · exact absurd (ih (Or.inl hd) c h1 h0).1 hd

/-- **Every chunk fits the maximum**: no chunk is longer than the buffer it was read into, which
never exceeds `max first small maxc`. -/
theorem C11_chunks_bounded {α : Type} (k : ChunkCfg) (B : Nat) (hs : k.small ≤ B) (hm : k.maxc ≤ B)
    (file : List α) (sched : List Nat) (chunk nextLen : Nat) (prev : List α)
    (hn : nextLen ≤ B) (hp : prev.length ≤ B) (h1 : 1 ≤ B) :
    ∀ c ∈ reader k file sched chunk nextLen prev, c.1.length ≤ B := by
  fun_induction reader k file sched chunk nextLen prev with
  | case1 prev => intro c hc; simp at hc; subst hc; exact hp
  | case2 file sched chunk nextLen prev h want n data rest out next ih =>
    intro c hc
    have hwant : want ≤ nextLen := by
      simp only [want]; split
      · exact Nat.le_refl _
      · exact Nat.min_le_right _ _
    have hnB : n ≤ B := by simp only [n]; omega
    have hdata : data.length ≤ B := by simp only [data, List.length_take]; omega
    have hnext : next.2 ≤ B := by
      simp only [next]; split
      · exact hs
      · exact Nat.le_trans (Nat.min_le_right _ _) hm
    rcases List.mem_append.mp hc with h2 | h2
    · rw [(mem_held h2).2]; exact hp
    · exact ih hnext hdata c h2

/-- the length-only reader is the reader -/
theorem C11_lens_eq {α : Type} (k : ChunkCfg) (file : List α) (sched : List Nat) (chunk nextLen : Nat) (prev : List α) :
    (reader k file sched chunk nextLen prev).map (fun c => (c.1.length, c.2)) =
      readerLens k file.length sched chunk nextLen prev.length := by
  fun_induction reader k file sched chunk nextLen prev with
  | case1 => rw [readerLens.eq_def]; simp
  | case2 file sched chunk nextLen prev h want n data rest out next ih =>
    have hl : file.length ≠ 0 := mt List.length_eq_zero_iff.mp h
    rw [readerLens.eq_def]
    simp only [hl, ↓reduceDIte, List.map_append]
    have hd : data.length = n := by simp only [data, n, List.length_take]; omega
    have hr : rest.length = file.length - n := by simp [rest]
    rw [ih, hd, hr]
    congr 1
    by_cases hp : prev = []
    · simp [out, hp]
    · simp [out, hp, mt List.length_eq_zero_iff.mp hp]

/-- The configuration extracted from the current source. -/
def cfg? : Option ChunkCfg := do
  let f ← Generated.firstChunk; let g ← Generated.chunkGrowth
  let m ← Generated.maxChunk; let s ← Generated.smallBuf
  pure ⟨f, g, m, s⟩

/-- **The largest chunk fits the frame buffers** (`encrypted_comms.rs:48,84`): with the constants of
the current source, every chunk (≤ max(first, small, max)) plus the bincode framing of a
`CreateOrUpdateFile` with a path of up to 4096 bytes (4+8+path+8+data+1+12+1), the AEAD tag (16) and
the 8-byte length prefix is within the fixed buffer. -/
theorem C11_frame_fits :
    ∃ k buf, cfg? = some k ∧ Generated.frameBuffer = some buf ∧
      k.first ≤ k.maxc ∧ k.small ≤ k.maxc ∧ 1 ≤ k.maxc ∧
      8 + (4 + 8 + 4096 + 8 + k.maxc + 1 + 12 + 1) + 16 ≤ buf := by
  refine ⟨⟨4096, 2, 4194304, 32⟩, 8388608, by decide, by decide, by decide, by decide, by decide, by decide⟩

/-- Non-vacuity / shape: 12388 bytes are sent as 4096, 8192, 100 (the chunking the real binary shows). -/
example : readFileLens ⟨4096, 2, 4194304, 32⟩ 12388 [] = [(4096, true), (8192, true), (100, false)] := by
  simp [readFileLens, readerLens]

/-- **Relay, success direction.**  If the chunk loop ends without error and with the expected number
of bytes, then (for every poll schedule) the source stream was properly terminated, its consumed
chunks total exactly the listed size, and exactly those chunks were forwarded to the destination, in
order, the time stamp on the last one only. -/
theorem C11_relay_ok (errAt : Option Nat) (p : String) (size : Nat) (mtime : Int) (s : FileScript)
    (x x' : XState) (off off' : Nat)
    (h : chunkLoop errAt p size mtime s x off = (none, x', off')) (hsz : off' = size) :
    terminated s = true ∧ off + total (consumed s) = size ∧
    x'.dest = x.dest ++ (consumed s).map (fun c => chunkCmd p c.1 mtime c.2) ∧
    x'.src = x.src := by
  obtain ⟨s₁, e, h2, he⟩ := chunkLoop_spec errAt p size mtime s x off
  cases h.symm.trans h2
  obtain ⟨-, ht, rfl⟩ | ⟨_, he, -⟩ := he
  · exact ⟨ht, hsz, rfl, List.append_nil _⟩
  · cases he

/-- **Relay, failure direction.**  If the source's stream is not terminated or its consumed chunks
do not total the listed size — the file grew or shrank at any moment between listing and the last
read — the copy of that file does not succeed, whatever the poll schedule. -/
theorem C11_relay_err (errAt : Option Nat) (p : String) (size : Nat) (mtime : Int) (s : FileScript)
    (x : XState) (hbad : terminated s = false ∨ total (consumed s) ≠ size) :
    ∀ x' off', chunkLoop errAt p size mtime s x 0 = (none, x', off') → off' ≠ size := by
  intro x' off' h hsz
  obtain ⟨t, hsum, _, _⟩ := C11_relay_ok errAt p size mtime s x x' 0 off' h hsz
  rcases hbad with hb | hb
  · simp [t] at hb
  · exact hb (by omega)

/-- `copy_file` as a whole: it succeeds only if the stream is terminated and totals the listed size. -/
theorem C11_copy_file_ok (c : Ctx) (hdry : c.dryRun = false) (errAt : Option Nat) (files : List (String × FileScript))
    (p : String) (mtime : Int) (size : Nat) (x x' : XState) (st st' : Stats)
    (h : copyOne c errAt files p (.file mtime size) x st = (none, x', st')) :
    terminated (fileScript files p) = true ∧ total (consumed (fileScript files p)) = size := by
  obtain ⟨_, _, -, -, hf⟩ | ⟨-, _, _, _, _, -, -, he⟩ := copyOne_spec c errAt files p (.file mtime size) x st
  · exact hf hdry _ _ rfl
  · rw [h] at he; cases he

/-- Non-vacuity: a 3-chunk stream that totals the size succeeds; the same stream against a size of 0
or with one extra chunk at the boundary (the two shapes the unrepaired code accepted) fails. -/
example :
    let s : FileScript := [([1, 2], true), ([3], true), ([4, 5], false)]
    let x0 : XState := ⟨[], [], [], 0⟩
    (chunkLoop none "f" 5 7 s x0 0).1 = none ∧ (chunkLoop none "f" 5 7 s x0 0).2.2 = 5 ∧
    (chunkLoop none "f" 0 7 [([9], false)] x0 0).1 = some .sizeChanged ∧
    (chunkLoop none "f" 3 7 s x0 0).1 = some .sizeChanged := by
  decide

end Rj.C11
