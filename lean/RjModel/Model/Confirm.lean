import RjModel.Model.Planner
/-! Model of the consent logic: the five behaviours, prompt resolution (`boss_frontend.rs:908-968`),
the root-deletion gate (`boss_sync.rs:400-425`) and `confirm_actions` (`boss_sync.rs:672-833`).

The four-valued behaviour enums of the code (`DestFileUpdateBehaviour`, `DestEntryNeedsDeleting…`,
`DestRootNeedsDeleting…`) are one type here; `proceed` stands for overwrite / delete. -/
namespace Rj

inductive Beh | prompt | error | skip | proceed
  deriving DecidableEq, Repr, Inhabited

structure Behaviours where
  newer : Beh
  older : Beh
  same : Beh
  entry : Beh
  root : Beh
  deriving DecidableEq, Repr

/-- A prompt answer.  An unattended terminal and an exhausted answer script behave as `cancel`. -/
inductive Answer | skipOnce | skipAll | doOnce | doAll | cancel
  deriving DecidableEq, Repr, Inhabited

inductive PromptKind | root | entry | newer | older | same
  deriving DecidableEq, Repr, Inhabited

inductive ErrKind
  | badFilter | srcMissing | srcSlash | destSlash | unexpected
  | rootErr | entryErr | newerErr | olderErr | sameErr
  | sizeChanged | doer | lost
  deriving DecidableEq, Repr, Inhabited

/-- Prompt state threaded through the run. -/
structure Conf where
  beh : Behaviours
  answers : List Answer
  /-- prompts shown so far, in order -/
  prompts : List PromptKind

/-- Resolve one behaviour occurrence.  Returns (resolved behaviour — never `prompt`,
behaviour to remember, remaining answers, whether a prompt was shown).
`always = false` models prompts without "all occurences" items (the root prompt). -/
def resolve (b : Beh) (answers : List Answer) (always : Bool) : Beh × Beh × List Answer × Bool :=
  match b with
  | .prompt =>
    match answers with
    | [] => (.error, b, [], true)
    | a :: rest =>
      match a with
      | .skipOnce => (.skip, b, rest, true)
      | .skipAll => (.skip, if always then .skip else b, rest, true)
      | .doOnce => (.proceed, b, rest, true)
      | .doAll => (.proceed, if always then .proceed else b, rest, true)
      | .cancel => (.error, b, rest, true)
  | x => (x, b, answers, false)

theorem resolve_ne_prompt (b : Beh) (a : List Answer) (al : Bool) : (resolve b a al).1 ≠ .prompt := by
  unfold resolve
  cases b with
  | prompt =>
    cases a with
    | nil => simp
    | cons x xs => cases x <;> simp
  | _ => simp

/-- The root-deletion gate: `some true` = go on (it will be deleted), `some false` = skip the whole
sync with `Ok`, `none` = error. -/
def rootGate (c : Conf) : Option Bool × Conf :=
  let (r, _, ans, shown) := resolve c.beh.root c.answers false
  let c' := { c with answers := ans, prompts := if shown then c.prompts ++ [.root] else c.prompts }
  match r with
  | .proceed => (some true, c')
  | .skip => (some false, c')
  | _ => (none, c')

/-- Confirmation pass over the deletions.  Returns the error (if any), the new prompt state and the
paths to remove from `to_delete`. -/
def confirmDeletes : Conf → List (String × (Details × DelReason)) → List String →
    Option ErrKind × Conf × List String
  | c, [], rm => (none, c, rm)
  | c, (p, _) :: rest, rm =>
    let (r, b', ans, shown) := resolve c.beh.entry c.answers true
    let c' : Conf := { beh := { c.beh with entry := b' }, answers := ans,
                       prompts := if shown then c.prompts ++ [.entry] else c.prompts }
    match r with
    | .proceed => confirmDeletes c' rest rm
    | .skip => confirmDeletes c' rest (rm ++ [p])
    | _ => (some .entryErr, c', rm)

/-- Confirmation pass over the copies. -/
def confirmCopies : Conf → List (String × (Details × CopyReason)) → List String →
    Option ErrKind × Conf × List String
  | c, [], rm => (none, c, rm)
  | c, (p, (_, reason)) :: rest, rm =>
    match reason with
    | .notOnDest => confirmCopies c rest rm
    | .destNewer =>
      let (r, b', ans, shown) := resolve c.beh.newer c.answers true
      let c' : Conf := { beh := { c.beh with newer := b' }, answers := ans,
                         prompts := if shown then c.prompts ++ [.newer] else c.prompts }
      match r with
      | .proceed => confirmCopies c' rest rm
      | .skip => confirmCopies c' rest (rm ++ [p])
      | _ => (some .newerErr, c', rm)
    | .destOlder =>
      let (r, b', ans, shown) := resolve c.beh.older c.answers true
      let c' : Conf := { beh := { c.beh with older := b' }, answers := ans,
                         prompts := if shown then c.prompts ++ [.older] else c.prompts }
      match r with
      | .proceed => confirmCopies c' rest rm
      | .skip => confirmCopies c' rest (rm ++ [p])
      | _ => (some .olderErr, c', rm)
    | .sameTime =>
      let (r, b', ans, shown) := resolve c.beh.same c.answers true
      let c' : Conf := { beh := { c.beh with same := b' }, answers := ans,
                         prompts := if shown then c.prompts ++ [.same] else c.prompts }
      match r with
      | .proceed => confirmCopies c' rest rm
      | .skip => confirmCopies c' rest (rm ++ [p])
      | _ => (some .sameErr, c', rm)

def removeAll {V : Type} (m : OMap V) : List String → OMap V
  | [] => m
  | p :: ps => removeAll (m.remove p) ps

theorem removeAll_vec {V : Type} (m : OMap V) (l : List String) : (removeAll m l).vec = m.vec := by
  induction l generalizing m with
  | nil => rfl
  | cons p ps ih => simp [removeAll, ih]

theorem removeAll_get {V : Type} (m : OMap V) (l : List String) (k : String) :
    (removeAll m l).get k = if k ∈ l then none else m.get k := by
  induction l generalizing m with
  | nil => simp [removeAll]
  | cons p ps ih =>
    simp only [removeAll, ih, OMap.get_remove, List.mem_cons]
    by_cases h1 : k ∈ ps <;> by_cases h2 : k = p <;> simp [h1, h2]

theorem mem_keys_removeAll {V : Type} (m : OMap V) (l : List String) (k : String) :
    k ∈ (removeAll m l).keys ↔ k ∈ m.keys ∧ k ∉ l := by
  rw [OMap.mem_keys_iff, OMap.mem_keys_iff, removeAll_vec, removeAll_get]
  by_cases h : k ∈ l <;> simp [h]

/-- `RootRelativePath::is_inside` -/
def isInside (k folder : String) : Bool :=
  if folder = "" then k != "" else (folder ++ "/").isPrefixOf k

/-- the copies that a kept destination entry stands in the way of: the source entry at a path whose
*incompatible* deletion was skipped, and everything inside it -/
def blockedCopies (del : OMap (Details × DelReason)) (cpy : OMap (Details × CopyReason)) (rm : List String) : List String :=
  let blocked := rm.filter fun p => match del.get p with
    | some (_, .incompatible) => true
    | _ => false
  cpy.keys.filter fun k => blocked.any fun b => k == b || isInside k b

/-- `confirm_actions`: deletions first, then copies; removal happens after each pass.  Copies that a
skipped incompatible deletion was to make room for are dropped before the copies are confirmed. -/
def confirmActions (c : Conf) (del : OMap (Details × DelReason)) (cpy : OMap (Details × CopyReason)) :
    Option ErrKind × Conf × OMap (Details × DelReason) × OMap (Details × CopyReason) :=
  match confirmDeletes c del.iter [] with
  | (some e, c', _) => (some e, c', del, cpy)
  | (none, c', rm) =>
    let del' := removeAll del rm
    let cpy := removeAll cpy (blockedCopies del cpy rm)
    match confirmCopies c' cpy.iter [] with
    | (some e, c'', _) => (some e, c'', del', cpy)
    | (none, c'', rm2) => (none, c'', del', removeAll cpy rm2)

end Rj
