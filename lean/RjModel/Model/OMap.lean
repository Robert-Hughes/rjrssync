/-! Model of `ordered_map.rs`: a `Vec` of keys in insertion order (never shrunk; stale and duplicate
keys stay) plus a key→value map.  The map is an association list with recursive `lookup`/`erase`
so that the proofs are by plain structural induction. -/
namespace Rj

def lookup {V : Type} : List (String × V) → String → Option V
  | [], _ => none
  | (k', v) :: t, k => if k' = k then some v else lookup t k

def erase {V : Type} : List (String × V) → String → List (String × V)
  | [], _ => []
  | (k', v) :: t, k => if k' = k then erase t k else (k', v) :: erase t k

theorem lookup_erase_self {V : Type} (l : List (String × V)) (k : String) : lookup (erase l k) k = none := by
  induction l with
  | nil => rfl
  | cons x xs ih => obtain ⟨k', v⟩ := x; simp only [erase]; split <;> simp_all [lookup]

theorem lookup_erase_ne {V : Type} (l : List (String × V)) {k k' : String} (h : k' ≠ k) :
    lookup (erase l k) k' = lookup l k' := by
  induction l with
  | nil => rfl
  | cons x xs ih =>
    obtain ⟨k2, v⟩ := x; simp only [erase]
    split
    · next e => subst e; simp [lookup, ih, Ne.symm h]
    · simp [lookup, ih]

theorem lookup_eq_none {V : Type} {l : List (String × V)} {q : String} (h : q ∉ l.map (·.1)) : lookup l q = none := by
  induction l with
  | nil => rfl
  | cons x xs ih =>
    simp only [List.map_cons, List.mem_cons, not_or] at h
    simp [lookup, Ne.symm h.1, ih h.2]

theorem lookup_eq_some_iff {V : Type} (l : List (String × V)) (nd : (l.map (·.1)).Nodup) (q : String) (d : V) :
    lookup l q = some d ↔ (q, d) ∈ l := by
  induction l with
  | nil => simp [lookup]
  | cons x xs ih =>
    obtain ⟨k, v⟩ := x
    rw [List.map_cons, List.nodup_cons] at nd
    by_cases e : k = q
    · subst e
      have : (k, d) ∉ xs := fun h => nd.1 (List.mem_map_of_mem (f := (·.1)) h)
      simp [lookup, this, eq_comm]
    · simp [lookup, e, ih nd.2, Ne.symm e]

theorem lookup_perm {V : Type} {l1 l2 : List (String × V)} (h : l1.Perm l2) (nd : (l1.map (·.1)).Nodup) :
    lookup l1 = lookup l2 := by
  funext q
  apply Option.ext
  intro d
  rw [lookup_eq_some_iff l1 nd, lookup_eq_some_iff l2 ((h.map (·.1)).nodup_iff.mp nd)]
  exact h.mem_iff

theorem lookup_reverse_perm {V : Type} {l1 l2 : List (String × V)} (h : l1.Perm l2) (nd : (l1.map (·.1)).Nodup) :
    lookup l1.reverse = lookup l2.reverse :=
  lookup_perm (((List.reverse_perm _).trans h).trans (List.reverse_perm _).symm)
    (by rw [List.map_reverse]; exact (List.reverse_perm _).nodup_iff.mpr nd)

/-- a path that is still to arrive is not in the listing so far -/
theorem lookup_reverse_of_nodup {V : Type} {l r : List (String × V)} {p : String} {v : V}
    (h : ((l ++ (p, v) :: r).map (·.1)).Nodup) : lookup l.reverse p = none := by
  refine lookup_eq_none fun hp => ?_
  rw [List.map_reverse, List.mem_reverse] at hp
  rw [List.map_append] at h
  exact (List.nodup_append.mp h).2.2 p hp p List.mem_cons_self rfl

structure OMap (V : Type) where
  vec : List String
  map : List (String × V)

namespace OMap
variable {V : Type}

def empty : OMap V := ⟨[], []⟩
def get (m : OMap V) (k : String) : Option V := lookup m.map k
/-- `add`: push the key (even if it is already there) and insert/overwrite the value. -/
def add (m : OMap V) (k : String) (v : V) : OMap V := ⟨m.vec ++ [k], (k, v) :: erase m.map k⟩
/-- `remove`: only the map entry goes; the key stays in the vector. -/
def remove (m : OMap V) (k : String) : OMap V := ⟨m.vec, erase m.map k⟩
/-- `update` is `*map.get_mut(k).unwrap() = v`: it panics when the key is absent (`none`). -/
def update (m : OMap V) (k : String) (v : V) : Option (OMap V) :=
  if (m.get k).isSome then some ⟨m.vec, (k, v) :: erase m.map k⟩ else none
def reverseOrder (m : OMap V) : OMap V := ⟨m.vec.reverse, m.map⟩
/-- iteration: the vector, filtered by what is still in the map, values fetched from the map -/
def iter (m : OMap V) : List (String × V) := m.vec.filterMap (fun k => (m.get k).map (fun v => (k, v)))
def keys (m : OMap V) : List String := m.iter.map (·.1)

@[simp] theorem get_empty (k : String) : (empty : OMap V).get k = none := rfl

@[simp] theorem get_add (m : OMap V) (k k' : String) (v : V) :
    (m.add k v).get k' = if k' = k then some v else m.get k' := by
  unfold add get; simp only [lookup]
  split
  · next e => simp [e]
  · next e => simp [Ne.symm e, lookup_erase_ne _ (Ne.symm e)]

@[simp] theorem get_remove (m : OMap V) (k k' : String) :
    (m.remove k).get k' = if k' = k then none else m.get k' := by
  unfold remove get
  split
  · next e => subst e; exact lookup_erase_self _ _
  · next e => exact lookup_erase_ne _ e

/-- `update` of a live key is `add` without the push -/
theorem update_of_isSome {m : OMap V} {k : String} (h : (m.get k).isSome) (v : V) :
    m.update k v = some ⟨m.vec, (m.add k v).map⟩ := if_pos h

@[simp] theorem get_reverseOrder (m : OMap V) (k : String) : m.reverseOrder.get k = m.get k := rfl

@[simp] theorem vec_add (m : OMap V) (k : String) (v : V) : (m.add k v).vec = m.vec ++ [k] := rfl

@[simp] theorem vec_remove (m : OMap V) (k : String) : (m.remove k).vec = m.vec := rfl

theorem iter_reverseOrder (m : OMap V) : m.reverseOrder.iter = m.iter.reverse :=
  List.filterMap_reverse (l := m.vec) (f := fun k => (m.get k).map (fun v => (k, v)))

theorem keys_eq (m : OMap V) : m.keys = m.vec.filter fun k => (m.get k).isSome := by
  rw [keys, iter, List.map_filterMap, ← List.filterMap_eq_filter]
  congr 1; funext k
  cases h : m.get k <;> simp [Option.guard, h]

/-- `m` has pushed a sub-sequence of `L`, and every live key has been pushed (so that iteration sees it) -/
structure Tracks (m : OMap V) (L : List String) : Prop where
  sub : m.vec.Sublist L
  live : ∀ k, m.get k ≠ none → k ∈ m.vec

theorem Tracks.empty : Tracks (empty : OMap V) [] := ⟨.slnil, fun _ h => absurd rfl h⟩

/-- `m'` is `m` with the value at `p` set to `o`; it tracks what `m` tracks, and `l` more -/
structure SetAt (m m' : OMap V) (p : String) (o : Option V) (l : List String) : Prop where
  get : ∀ k, m'.get k = if k = p then o else m.get k
  tracks : ∀ {L}, m.Tracks L → m'.Tracks (L ++ l)

-- In the lemmas below `o` is given by an equation: where they are used (`pstep_spec`) a closed form stands in its place.

/-- a new value at `p` without a push: fine when there is no value, or `p` is live -/
theorem SetAt.of_vec {m m' : OMap V} {p : String} {o : Option V} {l : List String}
    (hg : ∀ k, m'.get k = if k = p then o else m.get k) (hv : m'.vec = m.vec) (ho : o ≠ none → m.get p ≠ none) :
    m.SetAt m' p o l where
  get := hg
  tracks t := by
    refine ⟨hv ▸ t.sub.trans (List.sublist_append_left _ _), fun k hk => hv ▸ t.live k ?_⟩
    rw [hg] at hk
    split at hk
    · next e => exact e ▸ ho hk
    · exact hk

theorem SetAt.refl {m : OMap V} {p : String} {o : Option V} {l : List String} (h : m.get p = o) : m.SetAt m p o l := by
  refine .of_vec (fun k => ?_) rfl (fun ho => h ▸ ho)
  split
  · next e => rw [e, h]
  · rfl

theorem SetAt.remove (m : OMap V) {p : String} {o : Option V} {l : List String} (ho : o = none) :
    m.SetAt (m.remove p) p o l := by
  subst ho
  exact .of_vec (get_remove m p) rfl (absurd rfl)

theorem SetAt.update {m : OMap V} {p : String} {v : V} {o : Option V} {l : List String} (hs : (m.get p).isSome)
    (ho : o = some v) : m.SetAt ⟨m.vec, (m.add p v).map⟩ p o l := by
  subst ho
  exact .of_vec (m' := ⟨m.vec, _⟩) (fun k => get_add m p k v) rfl (fun _ hn => by rw [hn] at hs; cases hs)

theorem SetAt.add (m : OMap V) {p : String} {v : V} {o : Option V} (ho : o = some v) : m.SetAt (m.add p v) p o [p] := by
  subst ho
  refine ⟨fun k => get_add m p k v, fun t => ⟨t.sub.append (.refl _), fun k hk => ?_⟩⟩
  rw [get_add] at hk
  rw [vec_add, List.mem_append, List.mem_singleton]
  by_cases e : k = p
  · exact .inr e
  · exact .inl (t.live k (by simpa [e] using hk))

theorem mem_keys_iff (m : OMap V) (k : String) : k ∈ m.keys ↔ k ∈ m.vec ∧ (m.get k).isSome = true := by
  rw [keys_eq, List.mem_filter]

end OMap

end Rj
