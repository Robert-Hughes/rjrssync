-- Root of the library: everything that must build.
import RjModel.Model.Parse
import RjModel.Generated.Constants
import RjModel.Props.C01
import RjModel.Props.C02
import RjModel.Props.C03
import RjModel.Props.C04
import RjModel.Props.C05
import RjModel.Props.C06
import RjModel.Props.C07
import RjModel.Props.C08
import RjModel.Props.C09
import RjModel.Props.C10
import RjModel.Props.C11
import RjModel.Props.C12
import RjModel.Props.C13
import RjModel.Props.C14
import RjModel.Props.C15
import RjModel.Props.C16
import RjModel.Props.C17
import RjModel.Props.C18
import RjModel.Props.C19
import RjModel.Model.ParseSettings
import RjModel.Model.ParseDoer
